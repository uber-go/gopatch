/-
  Finder.lean — model of internal/pgo/augment: find.go, the token-level scan that decides where a
  fake package clause / fake function is needed and which "..." tokens are elisions (as opposed to
  variadic parameters or spreads); and, in the last part of the file, rewrite.go (`sortByStart`,
  `rwStep`, `rewrite`) with `posAdjuster.Pos` (`adjust`).

  go/scanner's token stream is an input of the model.  After the last real token
  the scanner returns EOF for ever; the model keeps a single EOF token at the end
  of the list and `next` does not move past it.

  The loops of the scan (`functionBody`/`fieldList`/`fieldLoop`, `recvLoop`, `findLoop`, `skipGroup`,
  `imports`) are defined by well-founded recursion on the number of remaining tokens: Lean accepting
  the definitions *is* the proof that the scan terminates on every well-formed token stream (`WF`: it ends with its
  only EOF token; on others `findTotal` answers `none`) (C08).  The loops of
  `funcDecl` and `fieldList` carry the EOF test added by the `fix:` commit, which is what their
  `decreasing_by` obligations rest on (`next_lt` needs a token that is not EOF).
-/
namespace Gopatch.Fnd

inductive K where
  | eof | package_ | import_ | lparen | rparen | period | ident | type_ | const_ | var_ | func_
  | lbrace | ellipsis | comma | other
  deriving DecidableEq, Repr, Inhabited

structure Tok where
  kind : K
  off : Nat
  line : Nat
  deriving Repr, Inhabited

inductive Aug where
  | fakePackage (start : Nat)
  | fakeFunc (start : Nat) (braces : Bool)
  | dots (start stop : Nat) (named : Bool)
  deriving Repr, Inhabited, DecidableEq

structure St where
  toks : List Tok
  augs : List Aug
  deriving Inhabited

def eofTok : Tok := { kind := .eof, off := 0, line := 0 }

def St.cur (s : St) : Tok := s.toks.head?.getD eofTok
def St.kind (s : St) : K := s.cur.kind

/-- `finder.next`: advance, but never past the final EOF -/
def nextToks : List Tok → List Tok
  | t :: t' :: rest => if t.kind == .eof then t :: t' :: rest else t' :: rest
  | l => l

def St.next (s : St) : St := { s with toks := nextToks s.toks }

def St.push (s : St) (a : Aug) : St := { s with augs := s.augs ++ [a] }

theorem nextToks_cons {t : Tok} (h : t.kind ≠ .eof) (t' : Tok) (rest : List Tok) :
    nextToks (t :: t' :: rest) = t' :: rest := by
  simp [nextToks, h]

theorem nextToks_le (l : List Tok) : (nextToks l).length ≤ l.length := by
  fun_cases nextToks l with
  | case1 => exact Nat.le_refl _ -- on EOF: no move
  | case2 => exact Nat.le_succ _ -- a step
  | case3 => exact Nat.le_refl _ -- one token or none

theorem next_le (s : St) : s.next.toks.length ≤ s.toks.length := nextToks_le s.toks

/-- a stream is well-formed when it ends with its only EOF token -/
def WF : List Tok → Prop
  | [] => False
  | [t] => t.kind = .eof
  | t :: t' :: rest => t.kind ≠ .eof ∧ WF (t' :: rest)

theorem wf_nextToks : ∀ l, WF l → WF (nextToks l)
  | [], h => h
  | [_], h => h
  | t :: t' :: rest, h => by
      rw [nextToks_cons h.1]
      exact h.2

theorem wf_next (s : St) (h : WF s.toks) : WF s.next.toks := wf_nextToks s.toks h

theorem nextToks_lt : ∀ l, WF l → (l.head?.getD eofTok).kind ≠ .eof → (nextToks l).length < l.length
  | [], h, _ => h.elim
  | [t], h, hk => absurd h hk
  | t :: t' :: rest, _, hk => by
      rw [nextToks_cons (by simpa using hk)]
      exact Nat.lt_succ_self _

theorem next_lt (s : St) (h : WF s.toks) (hk : s.kind ≠ .eof) : s.next.toks.length < s.toks.length :=
  nextToks_lt s.toks h hk

/-- a state together with the facts the termination argument needs -/
structure Res (s : St) where
  st : St
  le : st.toks.length ≤ s.toks.length
  wf : WF s.toks → WF st.toks

def Res.refl (s : St) : Res s := ⟨s, Nat.le_refl _, id⟩
def Res.step (s : St) : Res s := ⟨s.next, next_le s, wf_next s⟩
def Res.trans {a : St} (r : Res a) (r2 : Res r.st) : Res a :=
  ⟨r2.st, Nat.le_trans r2.le r.le, fun h => r2.wf (r.wf h)⟩
def Res.mapAugs {a : St} (r : Res a) (f : List Aug → List Aug) : Res a :=
  ⟨{ r.st with augs := f r.st.augs }, r.le, r.wf⟩

theorem Res.trans_st {a : St} (r : Res a) (r2 : Res r.st) : (r.trans r2).st = r2.st := rfl

/-- `finder.ident`: IDENT, optionally followed by "..." (a spread `foo...`) -/
def ident (s : St) : Res s :=
  let r := Res.step s
  if r.st.kind == .ellipsis then r.trans (Res.step r.st) else r

/-- `finder.ellipsis` -/
def ellipsis (s : St) : Res s :=
  let t := s.cur
  let r := Res.step s
  let sameLine := t.line == r.st.cur.line
  if r.st.kind == .ident && sameLine then r.trans (Res.step r.st)
  else r.mapAugs (· ++ [Aug.dots t.off (t.off + 3) false])

theorem kind_ne_eof_of_eq {s : St} {k : K} (h : s.kind = k) (hk : k ≠ .eof) : s.kind ≠ .eof := by
  rw [h]; exact hk

mutual
/-- `params(); results()` — the part of `function` / `funcDecl` after the name -/
def functionBody (s : St) (h : WF s.toks) : Res s :=
  let r1 := fieldList s h
  if r1.st.kind == .lparen then r1.trans (fieldList r1.st (r1.wf h)) else r1
termination_by (s.toks.length, 3)
decreasing_by
  all_goals simp_wf
  · exact Prod.Lex.right _ (by omega)
  · rcases Nat.lt_or_eq_of_le r1.le with hlt | heq
    · exact Prod.Lex.left _ _ hlt
    · rw [heq]; exact Prod.Lex.right _ (by omega)
/-- `fieldList`: "(" … ")" -/
def fieldList (s : St) (h : WF s.toks) : Res s :=
  let r0 := Res.step s
  r0.trans (fieldLoop r0.st (r0.wf h) [] false)
termination_by (s.toks.length, 2)
decreasing_by
  all_goals simp_wf
  show Prod.Lex _ _ (s.next.toks.length, 1) _
  rcases Nat.lt_or_eq_of_le (next_le s) with hlt | heq
  · exact Prod.Lex.left _ _ hlt
  · rw [heq]; exact Prod.Lex.right _ (by omega)
/-- the loop of `fieldList`, with the EOF test of the `fix:` commit -/
def fieldLoop (s : St) (h : WF s.toks) (ell : List Nat) (named : Bool) : Res s :=
  if hstop : s.kind = .rparen ∨ s.kind = .eof then
    (Res.step s).mapAugs (· ++ ell.map (fun off => Aug.dots off (off + 3) named))
  else
    have hne : s.kind ≠ .eof := fun hh => hstop (Or.inr hh)
    have hlt : s.next.toks.length < s.toks.length := next_lt s h hne
    if s.kind = .func_ then
      let r := functionBody s.next (wf_next s h)
      have hlt2 : r.st.toks.length < s.toks.length := Nat.lt_of_le_of_lt r.le hlt
      let r' : Res s := (Res.step s).trans r
      r'.trans (fieldLoop r.st (r.wf (wf_next s h)) ell named)
    else if s.kind = .ident then
      let r1 := Res.step s
      let r2 : Res s := if r1.st.kind = .period then r1.trans ((Res.step r1.st).trans (Res.step _)) else r1
      have hlt2 : r2.st.toks.length < s.toks.length := by
        show (if r1.st.kind = .period then r1.trans ((Res.step r1.st).trans (Res.step _)) else r1).st.toks.length < _
        split
        · exact Nat.lt_of_le_of_lt (Nat.le_trans (next_le _) (next_le _)) hlt
        · exact hlt
      let named' := named || (r2.st.kind != .comma && r2.st.kind != .rparen)
      r2.trans (fieldLoop r2.st (r2.wf h) ell named')
    else if s.kind = .ellipsis then
      let off := s.cur.off
      let r1 := Res.step s
      if r1.st.kind == .ident then r1.trans (fieldLoop r1.st (r1.wf h) ell named)
      else r1.trans (fieldLoop r1.st (r1.wf h) (ell ++ [off]) named)
    else
      let r1 := Res.step s
      r1.trans (fieldLoop r1.st (r1.wf h) ell named)
termination_by (s.toks.length, 1)
decreasing_by
  all_goals simp_wf
  all_goals first
    | exact Prod.Lex.left _ _ hlt2
    | exact Prod.Lex.left _ _ hlt
end

theorem step_lt (s : St) (h : WF s.toks) (hk : s.kind ≠ .eof) : (Res.step s).st.toks.length < s.toks.length :=
  next_lt s h hk

/-- `finder.function` -/
def function (s : St) (h : WF s.toks) : Res s :=
  (Res.step s).trans (functionBody s.next (wf_next s h))

/-- `finder.process` -/
def process (s : St) (h : WF s.toks) : Res s :=
  if s.kind = .ident then ident s
  else if s.kind = .ellipsis then ellipsis s
  else if s.kind = .func_ then function s h
  else Res.step s

theorem ident_lt (s : St) (h : WF s.toks) (hk : s.kind ≠ .eof) : (ident s).st.toks.length < s.toks.length := by
  fun_cases ident s with
  | case1 => exact Nat.lt_of_le_of_lt (next_le _) (next_lt s h hk) -- a spread `foo...`: two steps
  | case2 => exact next_lt s h hk

theorem ellipsis_lt (s : St) (h : WF s.toks) (hk : s.kind ≠ .eof) : (ellipsis s).st.toks.length < s.toks.length := by
  fun_cases ellipsis s with
  | case1 => exact Nat.lt_of_le_of_lt (next_le _) (next_lt s h hk) -- `...` and the identifier behind it: two steps
  | case2 => exact next_lt s h hk -- an elision

theorem process_lt (s : St) (h : WF s.toks) (hk : s.kind ≠ .eof) : (process s h).st.toks.length < s.toks.length := by
  fun_cases process s h with
  | case1 => exact ident_lt s h hk
  | case2 => exact ellipsis_lt s h hk
  | case3 => exact Nat.lt_of_le_of_lt (functionBody s.next (wf_next s h)).le (next_lt s h hk) -- `func`
  | case4 => exact next_lt s h hk -- any other token

/-- the receiver loop of `funcDecl`, with the EOF test of the `fix:` commit -/
def recvLoop (s : St) (h : WF s.toks) : Res s :=
  if hstop : s.kind = .rparen ∨ s.kind = .eof then Res.refl s
  else
    have hne : s.kind ≠ .eof := fun hh => hstop (Or.inr hh)
    let r := process s h
    have hlt : r.st.toks.length < s.toks.length := process_lt s h hne
    r.trans (recvLoop r.st (r.wf h))
termination_by s.toks.length

/-- `finder.funcDecl` -/
def funcDecl (s : St) (h : WF s.toks) : Res s :=
  let r0 := Res.step s                          -- func
  let r1 : Res s :=
    if r0.st.kind = .lparen then
      let a := Res.step r0.st                   -- (
      let b := recvLoop a.st (a.wf (r0.wf h))
      let c := Res.step b.st                    -- )
      r0.trans (a.trans (b.trans c))
    else r0
  let r2 := Res.step r1.st                      -- func name
  let r3 := functionBody r2.st (r2.wf (r1.wf h))
  r1.trans (r2.trans r3)

/-- the main loop of `find` -/
def findLoop (s : St) (h : WF s.toks) : Res s :=
  if hstop : s.kind = .eof then Res.refl s
  else
    let r := process s h
    have hlt : r.st.toks.length < s.toks.length := process_lt s h hstop
    r.trans (findLoop r.st (r.wf h))
termination_by s.toks.length

/-- `finder.pkg` -/
def pkg (s : St) : Res s :=
  if s.kind ≠ .package_ then (Res.refl s).mapAugs (· ++ [Aug.fakePackage s.cur.off])
  else (Res.step s).trans ((Res.step _).trans (Res.step _))

/-- skip to the closing parenthesis of an import group -/
def skipGroup (s : St) (h : WF s.toks) : Res s :=
  if hstop : s.kind = .rparen ∨ s.kind = .eof then Res.refl s
  else
    have hne : s.kind ≠ .eof := fun hh => hstop (Or.inr hh)
    have hlt : s.next.toks.length < s.toks.length := next_lt s h hne
    (Res.step s).trans (skipGroup s.next (wf_next s h))
termination_by s.toks.length

/-- `finder.imports` -/
def imports (s : St) (h : WF s.toks) : Res s :=
  if hi : s.kind = .import_ then
    have hne : s.kind ≠ .eof := by rw [hi]; decide
    have hlt : s.next.toks.length < s.toks.length := next_lt s h hne
    let r0 := Res.step s                        -- import
    if r0.st.kind = .lparen then
      let a := skipGroup r0.st (r0.wf h)
      let b := (Res.step a.st).trans (Res.step _)     -- ) ;
      let r : Res s := r0.trans (a.trans b)
      have hlt2 : r.st.toks.length < s.toks.length := Nat.lt_of_le_of_lt (a.trans b).le hlt
      r.trans (imports r.st (r.wf h))
    else if r0.st.kind = .eof then r0
    else
      let a : Res r0.st := if r0.st.kind = .period ∨ r0.st.kind = .ident then Res.step r0.st else Res.refl r0.st
      let b := (Res.step a.st).trans (Res.step _)     -- "path" ;
      let r : Res s := r0.trans (a.trans b)
      have hlt2 : r.st.toks.length < s.toks.length := Nat.lt_of_le_of_lt (a.trans b).le hlt
      r.trans (imports r.st (r.wf h))
  else Res.refl s
termination_by s.toks.length

/-- `finder.topLevelDecl` -/
def topLevelDecl (s : St) (h : WF s.toks) : Res s :=
  if s.kind = .type_ ∨ s.kind = .const_ ∨ s.kind = .var_ then Res.step s
  else if s.kind = .func_ then funcDecl s h
  else if s.kind = .lbrace then ((Res.refl s).mapAugs (· ++ [Aug.fakeFunc s.cur.off false])).trans (Res.step _)
  else (Res.refl s).mapAugs (· ++ [Aug.fakeFunc s.cur.off true])

/-- `find`: the augmentations for a token stream -/
def find (toks : List Tok) (h : WF toks) : List Aug :=
  let s0 : St := { toks := toks, augs := [] }
  let r1 := pkg s0
  let r2 := imports r1.st (r1.wf h)
  let r3 := topLevelDecl r2.st (r2.wf (r1.wf h))
  let r4 := findLoop r3.st (r3.wf (r2.wf (r1.wf h)))
  r4.st.augs

def wfB : List Tok → Bool
  | [] => false
  | [t] => t.kind == .eof
  | t :: t' :: rest => t.kind != .eof && wfB (t' :: rest)

theorem wfB_sound : ∀ l, wfB l = true → WF l
  | [], h => by simp [wfB] at h
  | [t], h => by simpa [wfB, WF] using h
  | t :: t' :: rest, h => by
      simp only [wfB, Bool.and_eq_true, bne_iff_ne, ne_eq] at h
      exact ⟨h.1, wfB_sound _ h.2⟩

/-- total entry point: `none` when the stream fails the test `wfB` -/
def findTotal (toks : List Tok) : Option (List Aug) :=
  if h : wfB toks = true then some (find toks (wfB_sound toks h)) else none

def Aug.start : Aug → Nat
  | .fakePackage s => s
  | .fakeFunc s _ => s
  | .dots s _ _ => s

def Aug.stop : Aug → Nat
  | .fakePackage s => s
  | .fakeFunc s _ => s
  | .dots _ e _ => e

def insertByStart (a : Aug) : List Aug → List Aug
  | [] => [a]
  | b :: bs => if a.start ≤ b.start then a :: b :: bs else b :: insertByStart a bs

/-- stable sort by start offset -/
def sortByStart (l : List Aug) : List Aug := l.foldr insertByStart []

def strBytes (s : String) : List UInt8 := s.toUTF8.toList

structure RwSt where
  pos : Nat := 0
  dst : List UInt8 := []
  tail : List UInt8 := []
  adjs : List (Nat × Nat) := []
  reduceBy : Nat := 0
  out : List Aug := []

/-- one iteration of the loop of `rewrite` -/
def rwStep (src : List UInt8) (st : RwSt) (a : Aug) : RwSt :=
  let dst := st.dst ++ (src.drop st.pos).take (a.start - st.pos)
  match a with
  | .fakePackage _ =>
      let start := dst.length
      let dst' := dst ++ strBytes "package _\n"
      let rb := st.reduceBy + (dst'.length - start)
      { st with pos := a.stop, dst := dst', adjs := st.adjs ++ [(start, rb)], reduceBy := rb, out := st.out ++ [.fakePackage start] }
  | .fakeFunc _ braces =>
      let start := dst.length
      let dst' := dst ++ strBytes "func _() " ++ (if braces then strBytes "{\n" else [])
      let rb := st.reduceBy + (dst'.length - start)
      { st with pos := a.stop, dst := dst', tail := st.tail ++ (if braces then strBytes "}\n" else []),
                adjs := st.adjs ++ [(start, rb)], reduceBy := rb, out := st.out ++ [.fakeFunc start braces] }
  | .dots _ _ named =>
      let start := dst.length
      let dst' := dst ++ (if named then strBytes "_ d" else strBytes "dts")
      { st with pos := a.stop, dst := dst', out := st.out ++ [.dots start dst'.length named] }

/-- `rewrite`: the augmented source, the augmentations with their new offsets, the position
adjustments -/
def rewrite (src : List UInt8) (augs : List Aug) : List UInt8 × List Aug × List (Nat × Nat) :=
  let st := (sortByStart augs).foldl (rwStep src) {}
  (st.dst ++ src.drop st.pos ++ st.tail, st.out, st.adjs)

/-- `posAdjuster.Pos` on offsets: subtract the adjustment of the last splice at or before it -/
def adjust (adjs : List (Nat × Nat)) (off : Nat) : Nat :=
  match (adjs.filter (fun a => a.1 ≤ off)).getLast? with
  | some a => off - a.2
  | none => off

end Gopatch.Fnd
