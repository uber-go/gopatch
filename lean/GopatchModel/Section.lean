/-
  Section.lean — model of internal/parse/section (Split) over raw bytes, with
  byte offsets, and of token.File.Position for a file whose line table was set
  from its content.  `unicode.IsSpace` is modelled for ASCII input (`isSpaceB`; the
  correspondence generator stays within ASCII for the header and comment syntax);
  letters and digits outside ASCII in a change name go through the parameter `Uni`.
-/
namespace Gopatch.Sec

abbrev Bytes := List UInt8

def nl : UInt8 := 10
def hash : UInt8 := 35
def atB : UInt8 := 64

def isSpaceB (b : UInt8) : Bool := b == 32 || (9 ≤ b && b ≤ 13)

def isLetterB (b : UInt8) : Bool := (65 ≤ b && b ≤ 90) || (97 ≤ b && b ≤ 122)
def isDigitB (b : UInt8) : Bool := 48 ≤ b && b ≤ 57

/-- offsets at which a line starts according to `token.File.SetLinesForContent`: 0 and every
offset after a newline that still has a byte (a trailing newline opens no further line) -/
def lineStartsFrom : Nat → Bytes → List Nat
  | _, [] => []
  | i, b :: bs => if b == nl && !bs.isEmpty then (i + 1) :: lineStartsFrom (i + 1) bs else lineStartsFrom (i + 1) bs

def lineStarts (content : Bytes) : List Nat := 0 :: lineStartsFrom 0 content

/-- (line, column), both 1-based, of a byte offset: `token.File.Position` after
`SetLinesForContent` -/
def position (content : Bytes) (off : Nat) : Nat × Nat :=
  let before := (lineStarts content).filter (· ≤ off)
  (before.length, off - before.getLast?.getD 0 + 1)

structure Line where
  off : Nat
  text : Bytes
  deriving Repr, Inhabited, DecidableEq

/-- split the content into lines (without the newline), each with its start offset -/
def linesFrom : Nat → Bytes → Bytes → List Line
  | off, acc, [] => [⟨off - acc.length, acc.reverse⟩]
  | off, acc, b :: bs =>
      if b == nl then ⟨off - acc.length, acc.reverse⟩ :: linesFrom (off + 1) [] bs
      else linesFrom (off + 1) (b :: acc) bs

/-- The raw lines that `programSplitter.next` walks over. A trailing newline does not open
another line (the loop stops when offset reaches len(content)). -/
def rawLines (content : Bytes) : List Line :=
  let ls := linesFrom 0 [] content
  match content.getLast? with
  | some b => if b == nl then ls.dropLast else ls
  | none => []

def trimLeft (s : Bytes) : Bytes := s.dropWhile isSpaceB
def trimSpace (s : Bytes) : Bytes := ((trimLeft s).reverse.dropWhile isSpaceB).reverse

def isComment (s : Bytes) : Bool :=
  match trimLeft s with
  | b :: _ => b == hash
  | [] => false

/-- the text recorded for a comment line: `bytes.TrimSpace(text[1:])` -/
def commentText (s : Bytes) : Bytes := trimSpace (s.drop 1)

inductive ErrKind where
  | badName (ch : UInt8)
  | badHeader
  | eofMeta
  | noChange
  deriving Repr, DecidableEq, Inhabited

structure Err where
  off : Nat
  kind : ErrKind
  deriving Repr, DecidableEq, Inhabited

structure Change where
  headerOff : Option Nat          -- `readProgram` always fills it; the NoPos (EOF) case is `atOff = none`
  name : Bytes
  metaL : List Line
  atOff : Option Nat
  patch : List Line
  comments : List Bytes
  deriving Repr, Inhabited

/-- Unicode classification of the runes outside ASCII (`unicode.IsLetter`, `unicode.IsDigit`): a parameter of the
model, supplied by the harness from Go's tables for the runes that occur in the input. -/
structure Uni where
  letter : Nat → Bool
  digit : Nat → Bool

def Uni.ascii : Uni := { letter := fun _ => false, digit := fun _ => false }

def isCont (b : UInt8) : Bool := 128 ≤ b && b < 192

/-- the rune that starts at the head of the bytes, as `for i, ch := range s` decodes it: (code point, width);
an invalid or truncated sequence is U+FFFD of width 1 -/
def decodeRune : Bytes → Nat × Nat
  | [] => (0, 0)
  | b :: rest =>
      if b < 128 then (b.toNat, 1)
      else if 192 ≤ b && b < 224 then
        (match rest with
         | c1 :: _ => if isCont c1 then ((b.toNat - 192) * 64 + (c1.toNat - 128), 2) else (65533, 1)
         | _ => (65533, 1))
      else if 224 ≤ b && b < 240 then
        (match rest with
         | c1 :: c2 :: _ => if isCont c1 && isCont c2 then ((b.toNat - 224) * 4096 + (c1.toNat - 128) * 64 + (c2.toNat - 128), 3) else (65533, 1)
         | _ => (65533, 1))
      else if 240 ≤ b && b < 248 then
        (match rest with
         | c1 :: c2 :: c3 :: _ =>
             if isCont c1 && isCont c2 && isCont c3 then
               ((b.toNat - 240) * 262144 + (c1.toNat - 128) * 4096 + (c2.toNat - 128) * 64 + (c3.toNat - 128), 4)
             else (65533, 1)
         | _ => (65533, 1))
      else (65533, 1)

/-- may the rune `cp` stand at byte index `i` of a change name? -/
def validRune (u : Uni) (i : Nat) (cp : Nat) : Bool :=
  if cp < 128 then isLetterB cp.toUInt8 || cp == 95 || (i > 0 && isDigitB cp.toUInt8)
  else u.letter cp || (i > 0 && u.digit cp)

/-- `validateChangeName`: byte index and first byte of the first rune that may not stand in a change name
(`fuel` = number of bytes suffices) -/
def validateName (u : Uni) : Nat → Nat → Bytes → Option (Nat × UInt8)
  | 0, _, _ => none
  | _, _, [] => none
  | fuel + 1, i, b :: bs =>
      let r := decodeRune (b :: bs)
      if validRune u i r.1 then validateName u fuel (i + r.2) ((b :: bs).drop r.2)
      else some (i, b)

/-- non-comment lines paired with the comment run directly above each of them -/
def attachComments : List Line → List Bytes → List (Line × List Bytes)
  | [], _ => []
  | l :: ls, acc =>
      if isComment l.text then attachComments ls (acc ++ [commentText l.text])
      else (l, acc) :: attachComments ls []

/-- `readName`: the name, or an error -/
def readName (u : Uni) (l : Line) : Bytes × Option Err :=
  let t := l.text
  if t == [atB, atB] then ([], none)
  else if t.length > 2 && t.head? == some atB && t.getLast? == some atB then
    let inner := (t.drop 1).dropLast
    let lead := (inner.takeWhile isSpaceB).length
    let allSpace := lead == inner.length
    let shift := if allSpace then 1 else 1 + lead
    let name := if allSpace then [] else ((inner.drop lead).reverse.dropWhile isSpaceB).reverse
    match validateName u name.length 0 name with
    | none => (name, none)
    | some (i, ch) => ([], some ⟨l.off + shift + i, .badName ch⟩)
  else ([], some ⟨l.off, .badHeader⟩)

def isAtAt (t : Bytes) : Bool := t == [atB, atB]

/-- meta lines up to the closing "@@": (meta, the "@@" line, the rest after it) -/
def readMeta : List (Line × List Bytes) → List Line → Option (List Line × Line × List (Line × List Bytes))
  | [], _ => none
  | (l, _) :: rest, acc => if isAtAt l.text then some (acc.reverse, l, rest) else readMeta rest (l :: acc)

def readPatch : List (Line × List Bytes) → List Line → List Line × List (Line × List Bytes)
  | [], acc => (acc.reverse, [])
  | (l, c) :: rest, acc =>
      if l.text.head? == some atB then (acc.reverse, (l, c) :: rest) else readPatch rest (l :: acc)

/-- `readProgram` with explicit fuel (the number of lines suffices: every change consumes at
least its header line) -/
def readProgram (u : Uni) (eofOff : Nat) : Nat → List (Line × List Bytes) → List Change × List Err
  | 0, _ => ([], [])
  | _, [] => ([], [])
  | fuel + 1, (h, cs) :: rest =>
      let (name, e1) := readName u h
      match readMeta rest [] with
      | none =>
          -- EOF inside the metavariable section: Meta = nil, AtPos = NoPos, Patch empty
          ([{ headerOff := some h.off, name := name, metaL := [], atOff := none, patch := [], comments := cs }],
           e1.toList ++ [⟨eofOff, .eofMeta⟩])
      | some (m, atl, rest') =>
          let (p, rest'') := readPatch rest' []
          let (chs, es) := readProgram u eofOff fuel rest''
          ({ headerOff := some h.off, name := name, metaL := m, atOff := some atl.off, patch := p, comments := cs } :: chs,
           e1.toList ++ es)

def split (u : Uni) (content : Bytes) : List Change × List Err :=
  let ls := attachComments (rawLines content) []
  let (chs, es) := readProgram u content.length (ls.length + 1) ls
  if chs.isEmpty then (chs, es ++ [⟨content.length, .noChange⟩]) else (chs, es)

end Gopatch.Sec
