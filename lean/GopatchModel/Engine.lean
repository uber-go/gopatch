import GopatchModel.Data
/-
  Engine.lean — executable model of internal/engine: matcher and replacer
  (matcher.go, replacer.go, reflect_match.go, reflect_replace.go, metavar.go, pos.go,
  slice_dots.go, for_dots.go; stmt_list.go is in FileM.lean), written as direct recursion on the *pattern*
  value (compile ∘ match fused; compile has no state besides the dots it finds).
-/
namespace Gopatch

def firstSome {α β} : List α → (α → Option β) → Option β
  | [], _ => none
  | a :: as, f => match f a with
    | some b => some b
    | none => firstSome as f

/-- all ways of cutting a list into (skipped prefix, rest), shortest prefix first -/
def splits {α} : List α → List (List α × List α)
  | [] => [([], [])]
  | a :: as => ([], a :: as) :: (splits as).map (fun p => (a :: p.1, p.2))

/-- key of a bare `pgo.Dots` expression value -/
def dotsExprKey : V → Option Nat
  | .iface _ (.ptr t _ [_, .pos _ k]) => if t == "pgo.Dots" then some k else none
  | _ => none

/-- `isDots` of compileSliceDots, per element type; returns the dots position key -/
def dotsKeyOf (e : String) (item : V) : Option Nat :=
  if e == "ast.Expr" then dotsExprKey item
  else if e == "ast.Stmt" then
    match item with
    | .iface _ (.ptr t _ [x]) => if t == "ast.ExprStmt" then dotsExprKey x else none
    | _ => none
  else if e == "*ast.Field" then
    match item with
    | .ptr t _ [_, _, ty, _, _] => if t == "ast.Field" then dotsExprKey ty else none
    | _ => none
  else none

/-- `for ... {` header: Cond is Dots, Init and Post are nil. Returns the dots key. -/
def forDotsKeyOf (t : String) (fs : List V) : Option Nat :=
  if t == "ast.ForStmt" then
    match fs with
    | [_, init, cond, post, _] => if init.isNil && post.isNil then dotsExprKey cond else none
    | _ => none
  else none

def identName (fs : List V) : String :=
  match fs with
  | [_, .str s, _] => s
  | _ => ""

def bodyIdxOf (t : String) : Option Nat :=
  if t == "ast.ForStmt" then some 4 else if t == "ast.RangeStmt" then some 7 else none

/-- pointer types that always match / are always produced as nil -/
def ignoredPtr (t : String) : Bool := t == "ast.CommentGroup" || t == "ast.Object"

/-! ### Matching a captured metavariable value against later occurrences
   (`metavarData.Matcher`, compiled with `meta = nil` from a value of the target file). -/
mutual
def eqvM : V → V → Bool
  | .pos pv _, g => match g with | .pos gv _ => pv == gv | _ => false
  | .str s, g => match g with | .str s' => s == s' | _ => false
  | .int n, g => match g with | .int n' => n == n' | _ => false
  | .bool b, g => match g with | .bool b' => b == b' | _ => false
  | .nilP t, g => ignoredPtr t || g.isNil
  | .nilI _, g => g.isNil
  | .nilS e, g =>
      if dotsElem e then (match g with | .nilS _ => true | .slice _ [] => true | _ => false)
      else g.isNil
  | .iface _ pv, g => match g with | .iface _ gv => eqvM pv gv | _ => false
  | .slice _ ps, g => match g with
      | .slice _ gs => eqvMs ps gs
      | .nilS _ => ps.isEmpty
      | _ => false
  | .ptr t _ fs, g =>
      ignoredPtr t ||
      (match g with
       | .ptr t' _ gs => t == t' && eqvMs fs gs
       | _ => false)
def eqvMs : List V → List V → Bool
  | [], [] => true
  | p :: ps, g :: gs => eqvM p g && eqvMs ps gs
  | _, _ => false
end

/-- `MetavarMatcher.TypeMatches` on the static type of the candidate value. -/
def kindOK (k : Kind) (g : V) : Bool :=
  match k, g with
  | .ident, .ptr t _ _ => t == "ast.Ident"
  | .ident, .nilP t => t == "ast.Ident"
  | .expr, .ptr t _ _ => isExprType t
  | .expr, .nilP t => isExprType t
  | _, _ => false

/-- `MetavarMatcher.Match` (after the `fix:` rejecting nil values). -/
def matchMetavar (k : Kind) (name : String) (g : V) (d : Data) : Option Data :=
  if !kindOK k g || g.isNil then none
  else match d.lookMv name with
    | some c => if eqvM c g then some d else none
    | none => some (d.pushMv name g)

mutual
/-- `Matcher.Match` of the matcher compiled from pattern value `p`, on `g`. -/
def matchV (mt : Meta) : V → V → Data → Option Data
  | .pos pv pk, g, d => match g with
      | .pos gv _ => if pv == gv then some (if pv then d.pushPos pk else d) else none
      | _ => none
  | .str s, g, d => match g with | .str s' => if s == s' then some d else none | _ => none
  | .int n, g, d => match g with | .int n' => if n == n' then some d else none | _ => none
  | .bool b, g, d => match g with | .bool b' => if b == b' then some d else none | _ => none
  | .nilP t, g, d => if ignoredPtr t || g.isNil then some d else none
  | .nilI _, g, d => if g.isNil then some d else none
  | .nilS e, g, d =>
      if dotsElem e then (match g with | .nilS _ => some d | .slice _ [] => some d | _ => none)
      else if g.isNil then some d else none
  | .iface _ pv, g, d => match g with | .iface _ gv => matchV mt pv gv d | _ => none
  | .slice e ps, g, d =>
      if dotsElem e then
        (match g with
         | .slice _ gs => matchSeq mt e ps gs d
         | .nilS _ => matchSeq mt e ps [] d
         | _ => none)
      else
        (match g with
         | .slice _ gs => matchVs mt ps gs d
         | .nilS _ => if ps.isEmpty then some d else none
         | _ => none)
  | .ptr t _ fs, g, d =>
      if ignoredPtr t then some d
      else if t == "ast.Ident" then
        (match mt.look (identName fs) with
         | some k => matchMetavar k (identName fs) g d
         | none => match g with
            | .ptr t' _ gs => if t == t' then matchVs mt fs gs d else none
            | _ => none)
      else match forDotsKeyOf t fs with
        | some k =>
            (match g with
             | .ptr t' _ gs =>
                 (match bodyIdxOf t' with
                  | some bi =>
                      (match gs[bi]? with
                       | some gb => matchNth mt fs 4 gb
                                      (d.pushFor k { ty := t', bodyIdx := bi, fields := gs })
                       | none => none)
                  | none => none)
             | _ => none)
        | none => match g with
            | .ptr t' _ gs => if t == t' then matchVs mt fs gs d else none
            | _ => none
/-- exact element-wise matching (`SliceMatcher`, `StructMatcher`) -/
def matchVs (mt : Meta) : List V → List V → Data → Option Data
  | [], [], d => some d
  | p :: ps, g :: gs, d => (matchV mt p g d).bind (matchVs mt ps gs)
  | _, _, _ => none
/-- `SliceDotsMatcher` (after the `fix:` that made it backtrack): every dots takes the
shortest run that lets the rest of the pattern match, left to right. -/
def matchSeq (mt : Meta) (e : String) : List V → List V → Data → Option Data
  | [], gs, d => if gs.isEmpty then some d else none
  | p :: ps, gs, d =>
      match dotsKeyOf e p with
      | some k => firstSome (splits gs) (fun sr => matchSeq mt e ps sr.2 (d.pushDots k sr.1))
      | none => match gs with
          | [] => none
          | g :: gs' => (matchV mt p g d).bind (matchSeq mt e ps gs')
/-- match only the pattern field at index `i` -/
def matchNth (mt : Meta) : List V → Nat → V → Data → Option Data
  | [], _, _, _ => none
  | p :: _, 0, g, d => matchV mt p g d
  | _ :: ps, i+1, g, d => matchNth mt ps i g d
end

/-! ### Replacement -/

inductive Err where
  | err (msg : String)
  | panic (msg : String)
  deriving Repr, Inhabited

abbrev R := Except Err

/- The value a metavariable's captured `Replacer` rebuilds: a deep copy with fresh
identity, comments and objects dropped, every valid position set to the fallback. -/
mutual
def copyV (fb : Bool) : V → V
  | .pos v k => .pos (v && fb) (if v && fb then k else 0)
  | .str s => .str s
  | .int n => .int n
  | .bool b => .bool b
  | .nilP t => .nilP t
  | .nilI i => .nilI i
  | .nilS e => .nilS e
  | .iface i v => .iface i (copyV fb v)
  | .slice e vs => .slice e (copyVs fb vs)
  | .ptr t _ fs => if ignoredPtr t then .nilP t else .ptr t 0 (copyVs fb fs)
def copyVs (fb : Bool) : List V → List V
  | [] => []
  | v :: vs => copyV fb v :: copyVs fb vs
end

/-- can a produced value be stored (`reflect.Value.Set`) in a slot whose static type is
that of pattern value `pf`? -/
def fits (out pf : V) : Bool := out.tyOf == pf.tyOf

def assocLook (assoc : List (Nat × Nat)) (k : Nat) : Option Nat := assoc.lookup k

/-- does the run fit a slice of element type `e`? (`result.Index(i).Set(item)`) -/
def runFits (e : String) (run : List V) : Bool :=
  run.all (fun v => match v with
    | .iface i _ => i == e
    | .nilI i => i == e
    | .ptr t _ _ => "*" ++ t == e
    | .nilP t => "*" ++ t == e
    | _ => false)

mutual
/-- `Replacer.Replace` of the replacer compiled from pattern value `p`.
`fb` is the validity of the fallback position `pos`. -/
def replaceV (mt : Meta) (assoc : List (Nat × Nat)) : V → Data → Bool → R V
  | .pos pv pk, d, fb =>
      if !pv then .ok (.pos false 0)
      else if d.posm.contains pk then .ok (.pos true pk) else .ok (.pos fb (if fb then pk else 0))
  | .str s, _, _ => .ok (.str s)
  | .int n, _, _ => .ok (.int n)
  | .bool b, _, _ => .ok (.bool b)
  | .nilP t, _, _ => .ok (.nilP t)
  | .nilI i, _, _ => .ok (.nilI i)
  | .nilS e, _, _ => .ok (.nilS e)
  | .iface i pv, d, fb =>
      (replaceV mt assoc pv d fb).bind (fun x =>
        if assignable x i then .ok (.iface i x)
        else .error (.err s!"cannot use {x.tyOf} as {i}"))
  | .slice e ps, d, fb =>
      if dotsElem e then
        (replaceSeq mt assoc e ps d fb).bind (fun r =>
          if r.2 && r.1.isEmpty then .ok (.nilS e) else .ok (.slice e r.1))
      else
        (replaceVs mt assoc ps d fb).bind (fun items => .ok (.slice e items))
  | .ptr t _ fs, d, fb =>
      if ignoredPtr t then .ok (.nilP t)
      else if t == "pgo.Dots" then .error (.err "cannot generate code for \"...\" outside a list")
      else if t == "ast.Ident" && (mt.look (identName fs)).isSome then
        (match d.lookMv (identName fs) with
         | some c => .ok (copyV fb c)
         | none => .error (.err s!"could not find value for metavariable {identName fs}"))
      else match forDotsKeyOf t fs with
        | some k =>
            (match (assocLook assoc k).bind d.lookFor with
             | some fd =>
                 (replaceNth mt assoc fs 4 d fb).bind (fun body =>
                   .ok (.ptr fd.ty 0 (fd.fields.set fd.bodyIdx body)))
             | none => .error (.err "match data not found for 'for ...'"))
        | none => (replaceVs mt assoc fs d fb).bind (fun fs' => .ok (.ptr t 0 fs'))
/-- element-wise (struct fields, plain slices) with the `Set` assignability check -/
def replaceVs (mt : Meta) (assoc : List (Nat × Nat)) : List V → Data → Bool → R (List V)
  | [], _, _ => .ok []
  | p :: ps, d, fb =>
      (replaceV mt assoc p d fb).bind (fun x =>
        if !fits x p then .error (.err s!"cannot use {x.tyOf} as {p.tyOf}")
        else (replaceVs mt assoc ps d fb).bind (fun xs => .ok (x :: xs)))
/-- `SliceDotsReplacer` / `SliceReplacer` for the dots-aware element types: returns the
items and whether the pattern list contained a dots. -/
def replaceSeq (mt : Meta) (assoc : List (Nat × Nat)) (e : String) :
    List V → Data → Bool → R (List V × Bool)
  | [], _, _ => .ok ([], false)
  | p :: ps, d, fb =>
      match dotsKeyOf e p with
      | some k =>
          if !runFits e (((assocLook assoc k).bind d.lookDots).getD []) then
            .error (.err s!"cannot reproduce elided values in a list of {e}")
          else
            (replaceSeq mt assoc e ps d ((assocLook assoc k).bind d.lookDots).isSome).bind (fun r =>
              .ok ((((assocLook assoc k).bind d.lookDots).getD []) ++ r.1, true))
      | none =>
          (replaceV mt assoc p d fb).bind (fun x =>
            if !fits x p then .error (.err s!"cannot use {x.tyOf} as {p.tyOf}")
            else (replaceSeq mt assoc e ps d fb).bind (fun r => .ok (x :: r.1, r.2)))
def replaceNth (mt : Meta) (assoc : List (Nat × Nat)) : List V → Nat → Data → Bool → R V
  | [], _, _, _ => .error (.err "no such field")
  | p :: _, 0, d, fb => replaceV mt assoc p d fb
  | _ :: ps, i+1, d, fb => replaceNth mt assoc ps i d fb
end

end Gopatch
