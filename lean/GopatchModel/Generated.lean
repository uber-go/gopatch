/-
  Generated.lean — model of main.go:checkGeneratedCode = ast.IsGenerated ∨
  "@generated" in the package doc comment, over the comment structure that
  go/parser hands over (comment groups before the package clause).
-/
namespace Gopatch

/-- one comment: its text as in `ast.Comment.Text` (including the `//` or `/*` marker) and
whether it starts at or before the `package` keyword (`c.Pos() <= f.Package`, the test of `ast.IsGenerated`) -/
structure Cmt where
  text : String
  beforePackage : Bool
  deriving Repr, Inhabited

def genPrefix : String := "// Code generated "
def genSuffix : String := " DO NOT EDIT."

/-- split at newlines -/
def splitLines : List Char → List (List Char)
  | [] => [[]]
  | c :: cs =>
      match splitLines cs with
      | [] => [[c]]
      | l :: ls => if c == '\n' then [] :: l :: ls else (c :: l) :: ls

/-- the marker test of `ast.generator` on one line of a comment's text -/
def isGenLineL (cs : List Char) : Bool :=
  genPrefix.toList.isPrefixOf cs && genSuffix.toList.isSuffixOf cs &&
    decide (genPrefix.toList.length + genSuffix.toList.length ≤ cs.length)

def isGenLine (text : String) : Bool := isGenLineL text.toList

/-- some line of the comment text is the marker -/
def hasGenLine (text : String) : Bool := (splitLines text.toList).any isGenLineL

/-- `ast.IsGenerated`: some comment that starts before the package clause has a marker line -/
def astIsGenerated (groups : List (List Cmt)) : Bool :=
  groups.any (fun g => g.any (fun c => c.beforePackage && hasGenLine c.text))

def hasInfix (sub : List Char) : List Char → Bool
  | [] => sub.isEmpty
  | c :: cs => sub.isPrefixOf (c :: cs) || hasInfix sub cs

def containsSub (s sub : String) : Bool := hasInfix sub.toList s.toList

/-- `checkGeneratedCode` -/
def checkGenerated (groups : List (List Cmt)) (doc : Option (List Cmt)) : Bool :=
  astIsGenerated groups ||
    (match doc with
     | none => false
     | some cs => cs.any (fun c => containsSub c.text "@generated"))

end Gopatch
