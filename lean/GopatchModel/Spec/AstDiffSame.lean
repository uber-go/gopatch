import GopatchModel.Spec.AstDiffSpec
import GopatchModel.Spec.Align
/-
  Spec/AstDiffSame.lean — a tree that did not change reports nothing:
  `diff.Difference` on two lists that agree position by position returns the all-identity
  script, `compareNodes` finds two values that are `Same` (equal up to positions and comments,
  pointers to the same objects) equal, `alignSlices` pairs every element with itself, and
  `Walk` over them reports no region.
-/
namespace Gopatch.AD

def idPath (d : Nat) (es : List Ed) : Path := { dir := 1, x := d, y := d, es := es }
def endPath (n : Nat) : Path := { dir := -1, x := n, y := n, es := [] }

theorem idPath_app (d : Nat) (es : List Ed) : (idPath d es).app .id = idPath (d + 1) (.id :: es) := by
  simp [idPath, Path.app]

/-- along an equal diagonal the run of identities goes all the way: `k` more steps from `d` -/
theorem runFwd_diag (f : Int → Int → Res) (n : Nat) (hf : ∀ i : Nat, i < n → (f i i).equal = true) :
    ∀ (k fuel d : Nat) (es : List Ed), d + k = n → k ≤ fuel →
      runFwd f fuel (idPath d es) (endPath n) = idPath n (List.replicate k .id ++ es)
  | 0, fuel, d, es, hd, _ => by
    obtain rfl : d = n := by omega
    cases fuel <;> simp [runFwd, idPath, endPath]
  | k + 1, 0, _, _, _, hfuel => by omega
  | k + 1, fuel + 1, d, es, hd, hfuel => by
    have h1 : ((idPath d es).x < (endPath n).x && (idPath d es).y < (endPath n).y) = true := by
      simp [idPath, endPath]; omega
    have h2 : (f (idPath d es).x (idPath d es).y).equal = true := by simpa [idPath] using hf d (by omega)
    rw [runFwd, if_pos h1, if_pos h2, idPath_app, runFwd_diag f n hf k fuel (d + 1) (.id :: es) (by omega) (by omega),
      List.replicate_succ']
    simp

theorem connectFwd_here (f : Int → Int → Res) (fuel : Nat) (p : Path) : connectFwd f fuel p p.x p.y = p := by
  cases fuel with
  | zero => rfl
  | succ n => simp [connectFwd]

def start0 (n : Nat) : DS :=
  { fwd := idPath 0 [], rev := endPath n, ffx := 0, ffy := 0, rfx := n, rfy := n, budget := 4 * (n + n) }

theorem fwdSearch_diag (f : Int → Int → Res) (n : Nat) (hn : 0 < n) (hf : ∀ i : Nat, i < n → (f i i).equal = true)
    (big fuel : Nat) (hbig : n ≤ big) :
    fwdSearch f big (fuel + 1) false false 0 (start0 n) =
      { start0 n with fwd := idPath n (List.replicate n .id), ffx := n, ffy := n } := by
  have hb : ((start0 n).budget == 0) = false := by simp [start0]; omega
  have hz : zigzag 0 = 0 := by decide
  have c1 : ((start0 n).ffx + zigzag 0 ≥ (start0 n).rev.x || (start0 n).ffy - zigzag 0 < (start0 n).fwd.y) = false := by
    simp [start0, hz, endPath, idPath]; omega
  have c2 : ((start0 n).ffy - zigzag 0 ≥ (start0 n).rev.y || (start0 n).ffx + zigzag 0 < (start0 n).fwd.x) = false := by
    simp [start0, hz, endPath, idPath]; omega
  have c3 : (f ((start0 n).ffx + zigzag 0) ((start0 n).ffy - zigzag 0)).equal = true := by
    simpa [start0, hz] using hf 0 hn
  rw [fwdSearch]
  simp only [Bool.false_and, Bool.false_or, hb, Bool.false_eq_true, ↓reduceIte, c1, c2, c3]
  have e1 : connectFwd f big (start0 n).fwd ((start0 n).ffx + zigzag 0) ((start0 n).ffy - zigzag 0) = idPath 0 [] :=
    connectFwd_here f big (idPath 0 [])
  rw [e1, idPath_app]
  have e2 : (start0 n).rev = endPath n := rfl
  obtain ⟨k, rfl⟩ : ∃ k, n = k + 1 := ⟨n - 1, by omega⟩
  rw [e2, runFwd_diag f (k + 1) hf k big 1 [.id] (by omega) (by omega), ← List.replicate_succ']
  simp [idPath]

theorem replicate_reverse {α} (n : Nat) (a : α) : (List.replicate n a).reverse = List.replicate n a :=
  List.reverse_replicate

theorem rounds_diag (f : Int → Int → Res) (n : Nat) (hn : 0 < n) (hf : ∀ i : Nat, i < n → (f i i).equal = true)
    (b fuel : Nat) (hbig : n ≤ b + 1) :
    rounds f (b + 1) (fuel + 1) (start0 n) =
      { start0 n with fwd := idPath n (List.replicate n .id), ffx := (n : Int) + 1, ffy := n } := by
  rw [rounds]
  have d0 : dsDone (start0 n) = false := by simp [dsDone, start0]; omega
  simp only [d0, Bool.false_eq_true, ↓reduceIte]
  rw [fwdSearch_diag f n hn hf (b + 1) b hbig]
  have a1 : ((start0 n).rev.x - (n : Int) ≥ (start0 n).rev.y - (n : Int)) := by simp [start0, endPath]
  simp only [a1, ↓reduceIte]
  have d1 : dsDone { start0 n with fwd := idPath n (List.replicate n .id), ffx := (n : Int) + 1, ffy := n } = true := by
    simp [dsDone, start0]
  simp [d1]

/-- **`diff.Difference` on lists that agree position by position**: the all-identity script -/
theorem difference_diag (f : Int → Int → Res) (n : Nat) (hf : ∀ i : Nat, i < n → (f i i).equal = true) :
    difference n n f = (List.replicate n .id, false) := by
  by_cases hn : n = 0
  · subst hn
    simp [difference, rounds, dsDone, connectFwd]
  · have hn' : 0 < n := Nat.pos_of_ne_zero hn
    unfold difference
    simp only []
    have hs0 : ({ fwd := { dir := 1, x := 0, y := 0, es := [] }, rev := { dir := -1, x := (n : Int), y := (n : Int), es := [] },
                  ffx := 0, ffy := 0, rfx := (n : Int), rfy := (n : Int), budget := 4 * (n + n) } : DS) = start0 n := rfl
    rw [hs0]
    rw [rounds_diag f n hn' hf (8 * (n + n) + 31) (8 * (n + n) + 31) (by omega)]
    simp only []
    have e : connectFwd f (8 * (n + n) + 32) (idPath n (List.replicate n Ed.id)) (start0 n).rev.x (start0 n).rev.y
        = idPath n (List.replicate n Ed.id) := connectFwd_here f _ (idPath n _)
    rw [e]
    simp [endPath, idPath, start0]

theorem cmpRows_eq_map (ts : List AV) : ∀ fs : List AV, cmpRows fs ts = fs.map fun f => ts.map fun t => cmp f t
  | [] => by rw [cmpRows, List.map_nil]
  | f :: fs => by rw [cmpRows, cmpRows_eq_map ts fs, List.map_cons]

theorem lookup_cmpRows (fs ts : List AV) (i j : Nat) (f t : AV) (hf : fs[i]? = some f) (ht : ts[j]? = some t) :
    lookup (cmpRows fs ts) (i : Int) (j : Int) = cmp f t := by
  have h : ¬ ((i : Int) < 0 ∨ (j : Int) < 0) := by omega
  simp [lookup, h, cmpRows_eq_map, hf, ht]

theorem lookup_cmpRows_lt (fs ts : List AV) {i k : Nat} (hi : i < fs.length) (hk : k < ts.length) :
    lookup (cmpRows fs ts) (i : Int) (k : Int) = cmp fs[i] ts[k] :=
  lookup_cmpRows fs ts i k fs[i] ts[k] (List.getElem?_eq_getElem hi) (List.getElem?_eq_getElem hk)

theorem Res.equal_of_diff {r : Res} (h : r.diff = 0) : r.equal = true := by
  simp [Res.equal, h]

theorem accumulate_ids (m : List (List Res)) : ∀ (k i : Nat) (acc : Res),
    (∀ t, t < k → (lookup m ((i + t : Nat) : Int) ((i + t : Nat) : Int)).equal = true) →
    (accumulate m (List.replicate k .id) i i acc).diff = acc.diff
  | 0, i, acc, _ => by simp [accumulate]
  | k + 1, i, acc, h => by
    rw [List.replicate_succ, accumulate]
    rw [accumulate_ids m k (i + 1) _ (fun t ht => Nat.succ_add_eq_add_succ i t ▸ h (t + 1) (Nat.succ_lt_succ ht))]
    have h0 := h 0 (by omega)
    simp only [Nat.add_zero, Res.equal, beq_iff_eq] at h0
    simp [Res.add, h0]

theorem cmpRows_diag (fs ts : List AV) (hlen : fs.length = ts.length)
    (h : ∀ (i : Nat) (hi : i < fs.length) (hk : i < ts.length), (cmp fs[i] ts[i]).diff = 0) (i : Nat) (hi : i < fs.length) :
    (lookup (cmpRows fs ts) (i : Int) (i : Int)).equal = true := by
  rw [lookup_cmpRows_lt fs ts hi (hlen ▸ hi)]
  exact Res.equal_of_diff (h i hi _)

/-- one level of `compareNodes` on unchanged syntax, given that the children compare equal -/
theorem cmp_same_level (src to : AV) : Same src to → (cmpElem src.kids to.kids).diff = 0 →
    (cmpFields src.kids to.kids).diff = 0 →
    (∀ i : Nat, i < src.kids.length → (lookup (cmpRows src.kids to.kids) (i : Int) (i : Int)).equal = true) →
    (cmp src to).diff = 0 := by
  fun_cases cmp src to
  all_goals
    intro hs hE hF hD
    obtain ⟨sty, spos, snl, spl, skids⟩ := hs
  case case1 hty => simp [sty] at hty  -- the types differ
  case case3 hp _ hv => simp [spos (by simpa using hp)] at hv  -- one token.Pos is valid and the other is not
  case case6 hne => simp [snl] at hne  -- one pointer is nil and the other is not
  case case7 => exact hE  -- the element of a pointer or interface
  case case8 hd =>  -- the elements of a slice
    rw [AV.kids] at hD
    rw [← SameL_length _ _ skids, difference_diag _ _ hD] at hd
    cases hd
    rw [accumulate_ids]
    intro t ht
    rw [Nat.zero_add]
    exact hD t ht
  case case9 => exact hF  -- the fields of a struct
  case case11 hpl => simp [spl] at hpl  -- different basic values
  -- an ignored type, token.Pos fields both valid or both not, two nil pointers, equal basic values
  all_goals rfl

mutual
theorem cmp_same : ∀ (src to : AV), Same src to → (cmp src to).diff = 0
  | .mk ty k isn p e cms nl pl en kids, to, h => by
    have hkids : SameL kids to.kids := h.2.2.2.2
    exact cmp_same_level _ to h (cmpElem_same kids to.kids hkids) (cmpFields_same kids to.kids hkids)
      (cmpRows_diag kids to.kids (SameL_length kids to.kids hkids) (cmp_sameL kids to.kids hkids))
termination_by structural src => src
theorem cmpElem_same : ∀ (fs ts : List AV), SameL fs ts → (cmpElem fs ts).diff = 0
  | [], [], _ => by simp [cmpElem]
  | f :: _, t :: _, h => by
    rw [cmpElem]
    exact cmp_same f t h.1
  | [], _ :: _, h | _ :: _, [], h => False.elim h
termination_by structural fs => fs
theorem cmpFields_same : ∀ (fs ts : List AV), SameL fs ts → (cmpFields fs ts).diff = 0
  | [], [], _ => by simp [cmpFields]
  | f :: fs, t :: ts, h => by
    simp only [cmpFields, Res.add]
    rw [cmp_same f t h.1, cmpFields_same fs ts h.2]
  | [], _ :: _, h | _ :: _, [], h => False.elim h
termination_by structural fs => fs
theorem cmp_sameL : ∀ (fs ts : List AV), SameL fs ts → ∀ (i : Nat) (hi : i < fs.length) (hk : i < ts.length),
    (cmp fs[i] ts[i]).diff = 0
  | g :: _, u :: _, h, 0, _, _ => cmp_same g u h.1
  | _ :: fs, _ :: ts, h, i + 1, hi, hk => cmp_sameL fs ts h.2 i (Nat.lt_of_succ_lt_succ hi) (Nat.lt_of_succ_lt_succ hk)
termination_by structural fs => fs
end

/-- `alignSlices` on lists that agree position by position: every element is paired as identical -/
theorem alignSlices_diag (m : List (List Res)) (n : Nat)
    (hd : ∀ i : Nat, i < n → (lookup m (i : Int) (i : Int)).equal = true) :
    alignSlices m n n = (List.replicate n .id, false) := by
  -- the anchoring finds the cell it starts from
  have find : ∀ i, i < n → findEqual m i n lookahead i = some i := fun i hi => by
    rw [lookahead, findEqual, if_pos hi, if_pos (hd i hi)]
  have nogap : ∀ i, gap m i i i i = ([], false) := fun i => by
    unfold gap
    rw [Nat.sub_self]
    exact difference_diag _ 0 (fun _ h => nomatch h)
  obtain ⟨a, b, es, ex, ⟨rfl, rfl, rfl, rfl⟩, heq⟩ := alignLoop_rule m n n
    (fun i a b es ex => i = a ∧ i = b ∧ es = List.replicate i .id ∧ ex = false)
    (fun i a b k es ex hi ⟨ha, hb, hes, hex⟩ hk => by
      subst ha hb hes hex
      rw [find i hi] at hk
      cases hk
      rw [nogap, List.append_nil, ← List.replicate_succ']
      exact ⟨rfl, rfl, rfl, rfl⟩)
    (fun i a b es ex hi ⟨_, hb, _, _⟩ hk => by
      subst hb
      rw [find i hi] at hk
      cases hk)
    ⟨rfl, rfl, rfl, rfl⟩
  rw [heq, nogap, List.append_nil]
  rfl

theorem walkFates_ids : ∀ (fl : List AV) (rl : List Rg) (k j : Nat) (ts : List AV),
    (walkFates rl (fates (List.replicate k Ed.id) j) fl ts).1 = []
  | f :: fs, r :: rs, k + 1, j, ts => by
    rw [List.replicate_succ, fates]
    unfold walkFates
    exact walkFates_ids fs rs k (j + 1) _
  | [], _, _, _, _ | _ :: _, [], _, _, _ | _ :: _, _ :: _, 0, _, _ => by simp [walkFates, fates]

mutual
theorem walk_same : ∀ (src : AV) (R : Rg) (to : AV), Same src to → (walk R src to).ch = []
  | .mk ty k isn p e cms nl pl en kids, R, to, h => by
    have hkids : SameL kids to.kids := h.2.2.2.2
    refine List.eq_nil_iff_forall_not_mem.2 fun r hr => ?_
    rcases mem_walk_ch R _ to r hr with ⟨_, hn⟩ | hr | hr | ⟨_, hr⟩ | hr
    · exact hn h
    · rw [AV.kids, walkElem_same kids R to.kids hkids] at hr
      cases hr
    · rw [AV.kids, walkPlain_same kids R to.kids hkids] at hr
      cases hr
    · rw [AV.kids, ← SameL_length kids to.kids hkids, alignSlices_diag _ _
        (cmpRows_diag kids to.kids (SameL_length kids to.kids hkids) (cmp_sameL kids to.kids hkids)), walkFates_ids] at hr
      cases hr
    · rw [AV.kids, walkFields_same kids _ to.kids hkids] at hr
      cases hr
termination_by structural src => src
theorem walkElem_same : ∀ (fs : List AV) (R : Rg) (ts : List AV), SameL fs ts → (walkElem R fs ts).2.1 = []
  | [], R, [], _ => by simp [walkElem]
  | f :: fs, R, t :: ts, h => by
    rw [walkElem]
    exact walk_same f R t h.1
  | [], _, _ :: _, h | _ :: _, _, [], h => False.elim h
termination_by structural fs => fs
theorem walkPlain_same : ∀ (fs : List AV) (R : Rg) (ts : List AV), SameL fs ts → (walkPlain R fs ts).2.1 = []
  | [], R, [], _ => by simp [walkPlain]
  | f :: fs, R, t :: ts, h => by
    rw [walkPlain]
    simp only []
    rw [walk_same f R t h.1, walkPlain_same fs R ts h.2]
    rfl
  | [], _, _ :: _, h | _ :: _, _, [], h => False.elim h
termination_by structural fs => fs
theorem walkFields_same : ∀ (fs : List AV) (rl : List Rg) (ts : List AV), SameL fs ts → (walkFields rl fs ts).2.1 = []
  | [], rl, [], _ => by simp [walkFields]
  | f :: fs, [], t :: ts, h => by simp [walkFields]
  | f :: fs, r :: rs, t :: ts, h => by
    rw [walkFields]
    simp only []
    rw [walk_same f r t h.1, walkFields_same fs rs ts h.2]
    rfl
  | [], _, _ :: _, h | _ :: _, _, [], h => False.elim h
termination_by structural fs => fs
end

mutual
theorem same_refl : ∀ v, Same v v
  | .mk _ _ _ _ _ _ _ _ _ kids => ⟨rfl, fun _ => rfl, rfl, rfl, sameL_refl kids⟩
theorem sameL_refl : ∀ vs, SameL vs vs
  | [] => trivial
  | v :: vs => ⟨same_refl v, sameL_refl vs⟩
end

end Gopatch.AD
