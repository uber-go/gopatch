import GopatchModel.FileM
/-
  Spec/Assoc.lean — what `connectDots` computes: every '+' elision the loop gets to is associated with the nearest
  '-' elision at or before it in patch order (`connectDotsGo_lookup`); in particular an elision on a context line
  (same position on both sides) is associated with itself (`connectDots_self`).
-/
namespace Gopatch

/-- the scan is a running maximum over the elements that are ≤ `r`, starting from the candidate in hand if there is one -/
theorem foldl_nbStep (r : Nat) : ∀ (lhs : List Nat) (acc : Option Nat),
    lhs.foldl (nbStep r) acc = (acc.toList ++ lhs.filter (· ≤ r)).max?
  | [], acc => by cases acc <;> rfl
  | l :: ls, acc => by
      rw [List.foldl_cons, foldl_nbStep r ls]
      unfold nbStep
      by_cases hl : l ≤ r
      · rw [List.filter_cons_of_pos (by simpa using hl), if_pos hl]
        cases acc with
        | none => rfl
        | some a =>
          -- both sides are the maximum of `a`, `l` and the rest
          simp only [← apply_ite some, ← Nat.max_def, Option.toList_some, List.singleton_append, List.max?_cons', List.foldl_cons]
      · rw [List.filter_cons_of_neg (by simpa using hl), if_neg hl]

/-- the scan computes the greatest element that is ≤ `r` -/
theorem nearestBefore_eq_max? (r : Nat) (lhs : List Nat) : nearestBefore lhs r = (lhs.filter (· ≤ r)).max? :=
  foldl_nbStep r lhs none

theorem nearestBefore_eq_some_iff (lhs : List Nat) (r m : Nat) :
    nearestBefore lhs r = some m ↔ m ∈ lhs ∧ m ≤ r ∧ ∀ l ∈ lhs, l ≤ r → l ≤ m := by
  simp [nearestBefore_eq_max?, List.max?_eq_some_iff, and_assoc]

theorem nearestBefore_eq_none_iff (lhs : List Nat) (r : Nat) : nearestBefore lhs r = none ↔ ∀ l ∈ lhs, ¬ l ≤ r := by
  simp [nearestBefore_eq_max?, List.max?_eq_none_iff, List.filter_eq_nil_iff]

/-- the loop only adds associations, for the positions it processes -/
theorem connectDotsGo_lookup_kept (lhs rs : List Nat) (conns : List (Nat × Nat)) (k : Nat) (hk : k ∉ rs) :
    (connectDotsGo lhs rs conns).lookup k = conns.lookup k := by
  fun_induction connectDotsGo lhs rs conns with
  | case1 | case2 | case3 => rfl -- no position left; no '-' elision at or before `r`; `r` is associated already
  | case4 r rs conns l _ _ ih => -- `r` gets its '-' elision
    rw [List.mem_cons, not_or] at hk
    rw [ih hk.2, List.lookup_cons, beq_false_of_ne hk.1]

/-- **Every '+' elision the loop gets to is associated with the nearest '-' elision at or before it**, provided every
'+' elision has some '-' elision at or before it, no position is listed twice and none is associated yet. (In gopatch the
implicit leading elision of a statement pattern stands at the start of the patch; the model leaves `startKey` free, so
the first condition is a hypothesis.) -/
theorem connectDotsGo_lookup (lhs rs : List Nat) (conns : List (Nat × Nat)) (k : Nat) (hk : k ∈ rs) (hnd : rs.Nodup)
    (hall : ∀ r ∈ rs, ∃ l ∈ lhs, l ≤ r) (hfree : ∀ r ∈ rs, conns.lookup r = none) :
    (connectDotsGo lhs rs conns).lookup k = nearestBefore lhs k := by
  fun_induction connectDotsGo lhs rs conns with
  | case1 => nomatch hk
  | case2 r _ _ hn => -- no '-' elision at or before `r`: `hall` says there is one
    obtain ⟨l, hl, hle⟩ := hall r List.mem_cons_self
    exact absurd hle ((nearestBefore_eq_none_iff lhs r).1 hn l hl)
  | case3 r _ _ _ _ hs => -- `r` is associated already: `hfree` says it is not
    rw [hfree r List.mem_cons_self] at hs
    cases hs
  | case4 r rs conns m hm _ ih => -- `r` gets its '-' elision
    rw [List.nodup_cons] at hnd
    rcases List.mem_cons.1 hk with rfl | hk'
    · rw [connectDotsGo_lookup_kept lhs rs _ k hnd.1, List.lookup_cons, beq_self_eq_true, hm]
    · refine ih hk' hnd.2 (fun x hx => hall x (List.mem_cons_of_mem _ hx)) (fun x hx => ?_)
      rw [List.lookup_cons, beq_false_of_ne (fun h : x = r => hnd.1 (h ▸ hx)), hfree x (List.mem_cons_of_mem _ hx)]

theorem insertAsc_perm (x : Nat) (l : List Nat) : (insertAsc x l).Perm (x :: l) := by
  fun_induction insertAsc x l with
  | case1 => exact .refl _
  | case2 => exact .refl _ -- `x` goes in front
  | case3 y ys _ ih => exact (ih.cons y).trans (.swap x y ys) -- `x` goes behind `y`

theorem sortAsc_perm : ∀ l : List Nat, (sortAsc l).Perm l
  | [] => .refl _
  | x :: xs => (insertAsc_perm x (sortAsc xs)).trans ((sortAsc_perm xs).cons x)

/-- `connectDots` associates a position that carries an elision on both sides with itself -/
theorem connectDots_self (lhs rhs : List Nat) (k : Nat) (hkl : k ∈ lhs) (hkr : k ∈ rhs)
    (hnd : rhs.Nodup) (hall : ∀ r ∈ rhs, ∃ l ∈ lhs, l ≤ r) :
    (connectDots lhs rhs).lookup k = some k := by
  have hp := sortAsc_perm rhs
  rw [connectDots, connectDotsGo_lookup lhs _ [] k (hp.mem_iff.2 hkr) (hp.nodup_iff.2 hnd)
    (fun r hr => hall r (hp.mem_iff.1 hr)) (fun _ _ => rfl), nearestBefore_eq_some_iff]
  exact ⟨hkl, Nat.le_refl k, fun _ _ h => h⟩

end Gopatch
