import GopatchModel.Cli
/-
  What a run is made of: the effects of `runFiles` are those of `stepFile`, file by file, and so are the writes and the
  stderr lines read off them and whether `errorsOf` is empty (stdout and the log are not treated); and, once for all
  flags and outcomes, what `stepFile` writes, what it says on stderr and when it records no error.
-/
namespace Gopatch

variable {o : Opts} {dt : String → String → String → String}

@[simp] theorem runFiles_nil : runFiles o dt [] = [] := rfl

@[simp] theorem runFiles_cons (f : FileIn) (fs : List FileIn) :
    runFiles o dt (f :: fs) = stepFile o dt f ++ runFiles o dt fs :=
  List.flatMap_cons

@[simp] theorem runFiles_append (a b : List FileIn) :
    runFiles o dt (a ++ b) = runFiles o dt a ++ runFiles o dt b :=
  List.flatMap_append

theorem writesOf_runFiles (fs : List FileIn) :
    writesOf (runFiles o dt fs) = fs.flatMap (fun f => writesOf (stepFile o dt f)) :=
  List.filterMap_flatMap

theorem stderrOf_runFiles (fs : List FileIn) :
    stderrOf (runFiles o dt fs) = fs.flatMap (fun f => stderrOf (stepFile o dt f)) :=
  List.filterMap_flatMap

/-- Membership in a `filterMap` whose function is the partial inverse of a constructor `c`; `writesOf`, `stderrOf` and the
two halves of `errorsOf` are of this form. -/
theorem mem_filterMap_ctor {α β : Type} {g : α → Option β} {c : β → α} (h : ∀ x y, g x = some y ↔ x = c y)
    {l : List α} {y : β} : y ∈ l.filterMap g ↔ c y ∈ l := by
  simp [List.mem_filterMap, h]

theorem mem_writesOf {outs : List Out} {p b : String} : (p, b) ∈ writesOf outs ↔ Out.write p b ∈ outs :=
  mem_filterMap_ctor (c := fun (pb : String × String) => Out.write pb.1 pb.2) fun x y => by
    cases x <;> simp [Prod.ext_iff, eq_comm]

theorem mem_stderrOf {outs : List Out} {s : String} : s ∈ stderrOf outs ↔ Out.stderr s ∈ outs :=
  mem_filterMap_ctor fun x y => by cases x <;> simp [eq_comm]

theorem mem_errorsOf {outs : List Out} {s : String} :
    s ∈ errorsOf outs ↔ Out.error s ∈ outs ∨ Out.lateError s ∈ outs :=
  List.mem_append.trans (or_congr
    (mem_filterMap_ctor fun x y => by cases x <;> simp [eq_comm])
    (mem_filterMap_ctor fun x y => by cases x <;> simp [eq_comm]))

theorem writesOf_eq_nil {outs : List Out} : writesOf outs = [] ↔ ∀ p b, Out.write p b ∉ outs := by
  simp [List.eq_nil_iff_forall_not_mem, mem_writesOf]

theorem errorsOf_eq_nil {outs : List Out} : errorsOf outs = [] ↔ ∀ s, Out.error s ∉ outs ∧ Out.lateError s ∉ outs := by
  simp [List.eq_nil_iff_forall_not_mem, mem_errorsOf]

/-- errors of the loop come before those of the runner, so `errorsOf` is no concatenation file by file; its being empty is -/
theorem errorsOf_runFiles_eq_nil (fs : List FileIn) :
    errorsOf (runFiles o dt fs) = [] ↔ ∀ f ∈ fs, errorsOf (stepFile o dt f) = [] := by
  simp only [errorsOf, runFiles, List.append_eq_nil_iff, List.filterMap_flatMap, List.flatMap_eq_nil_iff, imp_and, forall_and]

theorem exitOf_eq_zero {outs : List Out} : exitOf outs = 0 ↔ errorsOf outs = [] := by
  simp [exitOf]

theorem exitOf_eq_one {outs : List Out} : exitOf outs = 1 ↔ errorsOf outs ≠ [] := by
  simp [exitOf]

/-- The only write of a step: the bytes of the outcome `.ok`, to the file itself, when no dry-run flag is set. -/
theorem write_mem_stepFile {f : FileIn} {p b : String} :
    Out.write p b ∈ stepFile o dt f ↔
      (∃ cs, f.apply = .ok b cs) ∧ p = f.abs ∧ o.diff = false ∧ o.print = false ∧
        (∃ c, f.content = some c) ∧ f.parses = true ∧ (o.skipGenerated && f.generated) = false := by
  cases hc : f.content with
  | none => simp [stepFile, hc]
  | some c =>
    cases hp : f.parses with
    | false => simp [stepFile, hc, hp]
    | true =>
      cases hg : (o.skipGenerated && f.generated) with
      | true => simp [stepFile, hc, hp, hg]
      | false =>
        cases ha : f.apply with
        | ok b' cs =>
          cases hd : o.diff <;> cases hpr : o.print <;> simp [stepFile, hc, hp, hg, ha, hd, hpr, @eq_comm _ b, and_comm]
        | _ => simp [stepFile, hc, hp, hg, ha]

/-- The only lines on stderr: the comments of the outcome `.ok`, under the name the file was given by, in the two dry-run modes. -/
theorem stderr_mem_stepFile {f : FileIn} {s : String} :
    Out.stderr s ∈ stepFile o dt f ↔
      (∃ b cs, f.apply = .ok b cs ∧ ∃ c ∈ cs, s = s!"{f.provided}:{c}") ∧ (o.diff = true ∨ o.print = true) ∧
        (∃ c, f.content = some c) ∧ f.parses = true ∧ (o.skipGenerated && f.generated) = false := by
  cases hc : f.content with
  | none => simp [stepFile, hc]
  | some c =>
    cases hp : f.parses with
    | false => simp [stepFile, hc, hp]
    | true =>
      cases hg : (o.skipGenerated && f.generated) with
      | true => simp [stepFile, hc, hp, hg]
      | false =>
        cases ha : f.apply with
        | ok b' cs =>
          cases hd : o.diff <;> cases hpr : o.print <;>
            simp [stepFile, hc, hp, hg, ha, hd, hpr, and_assoc, @eq_comm _ s]
        | _ => simp [stepFile, hc, hp, hg, ha]

/-- only a patched file is written or described -/
theorem quiet_unless_ok {f : FileIn} (h : ∀ b cs, f.apply ≠ .ok b cs) :
    writesOf (stepFile o dt f) = [] ∧ stderrOf (stepFile o dt f) = [] := by
  refine ⟨writesOf_eq_nil.2 fun p b hw => ?_, List.eq_nil_iff_forall_not_mem.2 fun s hs => ?_⟩
  · obtain ⟨⟨cs, hok⟩, _⟩ := write_mem_stepFile.1 hw
    exact h b cs hok
  · obtain ⟨⟨b, cs, hok, _⟩, _⟩ := stderr_mem_stepFile.1 (mem_stderrOf.1 hs)
    exact h b cs hok

/-- A step records no error exactly when the file was read, parsed and then skipped as generated, left unmatched or patched. -/
theorem errorsOf_stepFile_eq_nil {f : FileIn} :
    errorsOf (stepFile o dt f) = [] ↔
      (∃ c, f.content = some c) ∧ f.parses = true ∧
        ((o.skipGenerated && f.generated) = true ∨ f.apply = .noMatch ∨ ∃ b cs, f.apply = .ok b cs) := by
  rw [errorsOf_eq_nil]
  cases hc : f.content with
  | none => simp [stepFile, hc]
  | some c =>
    cases hp : f.parses with
    | false => simp [stepFile, hc, hp]
    | true =>
      cases hg : (o.skipGenerated && f.generated) with
      | true => simp [stepFile, hc, hp, hg]
      | false =>
        cases ha : f.apply with
        | ok b' cs =>
          cases hd : o.diff <;> cases hpr : o.print <;> simp [stepFile, hc, hp, hg, ha, hd, hpr]
        | _ => simp [stepFile, hc, hp, hg, ha]

end Gopatch
