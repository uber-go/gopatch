import GopatchModel.Spec.TreeEqs
/-
  Spec/Frame.lean — what a slot update leaves alone.  First for one update: after blanking the targeted slot
  (`maskV`), the tree before and the tree after are the same tree (`set_changes_only_slot`).  Then for a whole
  change: blank, in one pass, every slot that belongs to a set `P` of slots (`maskP`); the replacement loop
  `applySites` over sites whose slots are all in `P` leaves the blanked tree as it was (`applySites_in_slots`).
  The second says for a set what the first says for one slot; both stand because `maskV` finds the slot by its
  position (`modifyAt`) and `maskP` by a running field number, and equating the two takes more index arithmetic
  than the direct argument for one slot.
-/
namespace Gopatch

def hole : V := .str "<rewritten>"

/-- blank the slot (field `fld`, element `idx`) in a field list -/
def blankField (fs : List V) (fld : Nat) (idx : Option Nat) : List V :=
  modifyAt (fun slot =>
    match idx with
    | none => hole
    | some i => match slot with
        | .slice e vs => .slice e (modifyAt (fun _ => hole) vs i)
        | s => s) fs fld

/-- what `blankField` does to the slot -/
def blankSlot (idx : Option Nat) (slot : V) : V :=
  match idx with
  | none => hole
  | some i => match slot with
      | .slice e vs => .slice e (modifyAt (fun _ => hole) vs i)
      | s => s

theorem blankField_eq (fs : List V) (fld : Nat) (idx : Option Nat) :
    blankField fs fld idx = modifyAt (blankSlot idx) fs fld := rfl

mutual
/-- blank the slot `fld[idx]` of every occurrence of node `pid` -/
def maskV (pid fld : Nat) (idx : Option Nat) : V → V
  | .iface i v => .iface i (maskV pid fld idx v)
  | .slice e vs => .slice e (maskVs pid fld idx vs)
  | .ptr t id fs =>
      let fs' := maskVs pid fld idx fs
      if id == pid then .ptr t id (blankField fs' fld idx) else .ptr t id fs'
  | v => v
def maskVs (pid fld : Nat) (idx : Option Nat) : List V → List V
  | [] => []
  | v :: vs => maskV pid fld idx v :: maskVs pid fld idx vs
end

section
variable (pid fld : Nat) (idx : Option Nat)
theorem maskV_slice (e : String) (vs : List V) : maskV pid fld idx (.slice e vs) = .slice e (maskVs pid fld idx vs) := rfl
theorem maskV_ptr (t : String) (id : Nat) (fs : List V) :
    maskV pid fld idx (.ptr t id fs) =
      if id == pid then .ptr t id (blankField (maskVs pid fld idx fs) fld idx) else .ptr t id (maskVs pid fld idx fs) := rfl
theorem maskVs_cons (v : V) (vs : List V) :
    maskVs pid fld idx (v :: vs) = maskV pid fld idx v :: maskVs pid fld idx vs := rfl
end

theorem maskVs_eq_map (pid fld : Nat) (idx : Option Nat) : ∀ vs, maskVs pid fld idx vs = vs.map (maskV pid fld idx)
  | [] => rfl
  | v :: vs => by rw [maskVs_cons, maskVs_eq_map pid fld idx vs, List.map_cons]

theorem modifyAt_absorb {α} (F G h : α → α) (hyp : ∀ x, F (h (G x)) = F (h x)) :
    ∀ (l : List α) (k : Nat), modifyAt F ((modifyAt G l k).map h) k = modifyAt F (l.map h) k
  | [], _ => rfl
  | a :: as, 0 => by simp [modifyAt, hyp]
  | a :: as, k + 1 => by simp [modifyAt, modifyAt_absorb F G h hyp as k]

theorem blank_absorbs_set (pid fld : Nat) (idx : Option Nat) (nv : V) (slot : V) :
    blankSlot idx (maskV pid fld idx (setSlot idx nv slot)) = blankSlot idx (maskV pid fld idx slot) := by
  cases idx with
  | none => rfl
  | some i =>
    cases slot with
    | slice e vs =>
      simp only [setSlot, blankSlot, maskV_slice, maskVs_eq_map]
      rw [modifyAt_absorb (fun _ => hole) (fun o => wrapFor o nv) (maskV pid fld (some i)) (fun _ => rfl) vs i]
    | _ => rfl

mutual
/-- **Frame.** Storing a new value in the slot `fld[idx]` of node `pid` changes that slot and
nothing else: with the slot blanked, the tree after the update equals the tree before it. -/
theorem set_changes_only_slot (pid fld : Nat) (idx : Option Nat) (nv : V) :
    ∀ v, maskV pid fld idx (setV pid fld idx nv v) = maskV pid fld idx v
  | .iface i v => congrArg (V.iface i) (set_changes_only_slot pid fld idx nv v)
  | .slice e vs => congrArg (V.slice e) (sets_change_only_slot pid fld idx nv vs)
  | .ptr t id fs => by
      have ih := sets_change_only_slot pid fld idx nv fs
      rw [setV_ptr]
      split
      · next h =>
        -- the parent itself: blanking the slot forgets what was stored in it
        simp only [maskV_ptr, if_pos h]
        rw [blankField_eq, blankField_eq, setField_eq, maskVs_eq_map,
          modifyAt_absorb (blankSlot idx) (setSlot idx nv) (maskV pid fld idx) (blank_absorbs_set pid fld idx nv),
          ← maskVs_eq_map, ih]
      · next h => simp only [maskV_ptr, if_neg h, ih]
  | .pos _ _ | .str _ | .int _ | .bool _ | .nilP _ | .nilI _ | .nilS _ => rfl
theorem sets_change_only_slot (pid fld : Nat) (idx : Option Nat) (nv : V) :
    ∀ vs, maskVs pid fld idx (setVs pid fld idx nv vs) = maskVs pid fld idx vs
  | [] => rfl
  | v :: vs => by
      rw [setVs_cons, maskVs_cons, maskVs_cons, set_changes_only_slot pid fld idx nv v,
        sets_change_only_slot pid fld idx nv vs]
end


/-- a set of slots: (parent identity, field number, element index) -/
abbrev Slots := Nat → Nat → Option Nat → Bool

/-- blank the elements of a list field that belong to the set (`j` = index of the first element) -/
def blankElems (q : Option Nat → Bool) : Nat → List V → List V
  | _, [] => []
  | j, x :: xs => (if q (some j) then hole else x) :: blankElems q (j + 1) xs

/-- blank what the set holds of one field: the whole field, or some of its elements -/
def blankP (q : Option Nat → Bool) (slot : V) : V :=
  if q none then hole else
  match slot with
  | .slice e vs => .slice e (blankElems q 0 vs)
  | s => s

/-- no element of a list field is in the set -/
def noq : Option Nat → Bool := fun _ => false

theorem blankElems_noq : ∀ (j : Nat) (vs : List V), blankElems noq j vs = vs
  | _, [] => rfl
  | j, v :: vs => congrArg (v :: ·) (blankElems_noq (j + 1) vs)

theorem blankP_noq (x : V) : blankP noq x = x := by
  cases x with
  | slice e vs => exact congrArg (V.slice e) (blankElems_noq 0 vs)
  | _ => rfl

mutual
/-- blank every slot of the set `P`, everywhere in the tree, in one pass -/
def maskP (P : Slots) : V → V
  | .iface i v => .iface i (maskP P v)
  | .slice e vs => .slice e (maskPs P vs)
  | .ptr t id fs => .ptr t id (maskFields P id 0 fs)
  | v => v
def maskPs (P : Slots) : List V → List V
  | [] => []
  | v :: vs => maskP P v :: maskPs P vs
/-- the fields of node `id`, from field number `k` on -/
def maskFields (P : Slots) (id : Nat) : Nat → List V → List V
  | _, [] => []
  | k, v :: vs => blankP (P id k) (maskP P v) :: maskFields P id (k + 1) vs
end

section
variable (P : Slots)
theorem maskP_iface (i : String) (v : V) : maskP P (.iface i v) = .iface i (maskP P v) := rfl
theorem maskP_slice (e : String) (vs : List V) : maskP P (.slice e vs) = .slice e (maskPs P vs) := rfl
theorem maskP_ptr (t : String) (id : Nat) (fs : List V) : maskP P (.ptr t id fs) = .ptr t id (maskFields P id 0 fs) := rfl
theorem maskPs_cons (v : V) (vs : List V) : maskPs P (v :: vs) = maskP P v :: maskPs P vs := rfl
theorem maskFields_cons (id k : Nat) (v : V) (vs : List V) :
    maskFields P id k (v :: vs) = blankP (P id k) (maskP P v) :: maskFields P id (k + 1) vs := rfl
theorem maskFields_nil (id k : Nat) : maskFields P id k [] = [] := rfl
end
theorem maskPs_nil (P : Slots) : maskPs P [] = [] := rfl

/-- blanking the element at `i` (which is in the set) forgets what was stored there -/
theorem blankElems_absorb (P : Slots) (q : Option Nat → Bool) (W : V → V) :
    ∀ (vs : List V) (j i : Nat), q (some (j + i)) = true →
      blankElems q j (maskPs P (modifyAt W vs i)) = blankElems q j (maskPs P vs)
  | [], _, _, _ => rfl
  | v :: vs, j, 0, h => by simp [modifyAt, maskPs_cons, blankElems, show q (some j) = true from h]
  | v :: vs, j, i + 1, h => by
      simp only [modifyAt, maskPs_cons, blankElems]
      rw [blankElems_absorb P q W vs (j + 1) i (by rw [Nat.add_right_comm]; exact h)]

/-- blanking a slot of the set forgets what `setSlot` stored in it -/
theorem blankP_absorbs_set (P : Slots) (q : Option Nat → Bool) (idx : Option Nat) (nv : V) (hq : q idx = true) (slot : V) :
    blankP q (maskP P (setSlot idx nv slot)) = blankP q (maskP P slot) := by
  cases idx with
  | none => simp [blankP, hq]
  | some i =>
    cases slot with
    | slice e vs => simp only [setSlot, maskP_slice, blankP, blankElems_absorb P q _ vs 0 i (by simpa using hq)]
    | _ => rfl

/-- a field list in which the slot `n` (in the set) was overwritten blanks to the same list -/
theorem maskFields_absorb (P : Slots) (id : Nat) (idx : Option Nat) (nv : V) :
    ∀ (fs : List V) (k n : Nat), P id (k + n) idx = true →
      maskFields P id k (modifyAt (setSlot idx nv) fs n) = maskFields P id k fs
  | [], _, _, _ => rfl
  | v :: vs, k, 0, h => by simp only [modifyAt, maskFields_cons, blankP_absorbs_set P (P id k) idx nv h v]
  | v :: vs, k, n + 1, h => by
      simp only [modifyAt, maskFields_cons]
      rw [maskFields_absorb P id idx nv vs (k + 1) n (by rw [Nat.add_right_comm]; exact h)]

mutual
/-- **Frame for a set of slots.** Storing a value in a slot of the set leaves the blanked tree as it was. -/
theorem set_in_slots (P : Slots) (pid fld : Nat) (idx : Option Nat) (nv : V) (hp : P pid fld idx = true) :
    ∀ v, maskP P (setV pid fld idx nv v) = maskP P v
  | .iface i v => congrArg (V.iface i) (set_in_slots P pid fld idx nv hp v)
  | .slice e vs => congrArg (V.slice e) (sets_in_slots P pid fld idx nv hp vs)
  | .ptr t id fs => by
      have ih := setf_in_slots P pid fld idx nv hp id 0 fs
      rw [setV_ptr]
      split
      · next h =>
        rw [maskP_ptr, setField_eq, maskFields_absorb P id idx nv _ 0 fld (by simpa [eq_of_beq h] using hp), ih, maskP_ptr]
      · exact congrArg (V.ptr t id) ih
  | .pos _ _ | .str _ | .int _ | .bool _ | .nilP _ | .nilI _ | .nilS _ => rfl
theorem sets_in_slots (P : Slots) (pid fld : Nat) (idx : Option Nat) (nv : V) (hp : P pid fld idx = true) :
    ∀ vs, maskPs P (setVs pid fld idx nv vs) = maskPs P vs
  | [] => rfl
  | v :: vs => by
      rw [setVs_cons, maskPs_cons, maskPs_cons, set_in_slots P pid fld idx nv hp v,
        sets_in_slots P pid fld idx nv hp vs]
theorem setf_in_slots (P : Slots) (pid fld : Nat) (idx : Option Nat) (nv : V) (hp : P pid fld idx = true) (id : Nat) :
    ∀ (k : Nat) (vs : List V), maskFields P id k (setVs pid fld idx nv vs) = maskFields P id k vs
  | _, [] => rfl
  | k, v :: vs => by
      rw [setVs_cons, maskFields_cons, maskFields_cons, set_in_slots P pid fld idx nv hp v,
        setf_in_slots P pid fld idx nv hp id (k + 1) vs]
end

def slotsOf (sites : List Site) : Slots :=
  fun p f i => sites.any (fun s => s.parent == p && s.field == f && s.index == i)

theorem slotsOf_mem (sites : List Site) (s : Site) (h : s ∈ sites) : slotsOf sites s.parent s.field s.index = true :=
  List.any_eq_true.2 ⟨s, h, by simp⟩

/-- **Frame of the replacement loop.** For every list of sites whose slots are in the set, whatever values the
replacer generates and whichever of them are admissible: once every slot of the set is blanked, the tree
after all replacements is the tree before them. -/
theorem applySites_in_slots (c : Change) (assoc : List (Nat × Nat)) (P : Slots) :
    ∀ (sites : List Site) (tree tree' : V), (∀ s ∈ sites, P s.parent s.field s.index = true) →
      applySites c assoc sites tree = .ok tree' → maskP P tree' = maskP P tree
  | [], tree, tree', _, h => by
      cases h
      rfl
  | s :: ss, tree, tree', hin, h => by
      cases hg : nodeReplace c assoc s.data with
      | error e => simp [applySites, hg, bind, Except.bind] at h
      | ok give =>
        simp only [applySites, hg, bind, Except.bind] at h
        rw [applySites_in_slots c assoc P ss _ tree' (fun s' hs' => hin s' (List.mem_cons_of_mem _ hs')) h]
        split
        · exact set_in_slots P s.parent s.field s.index give (hin s (List.mem_cons_self ..)) tree
        · rfl

mutual
/-- blanking the empty set of slots is the identity -/
theorem maskP_empty : ∀ v, maskP (fun _ _ _ => false) v = v
  | .iface i v => congrArg (V.iface i) (maskP_empty v)
  | .slice e vs => congrArg (V.slice e) (maskPs_empty vs)
  | .ptr t id fs => congrArg (V.ptr t id) (maskFields_empty id 0 fs)
  | .pos _ _ | .str _ | .int _ | .bool _ | .nilP _ | .nilI _ | .nilS _ => rfl
theorem maskPs_empty : ∀ vs, maskPs (fun _ _ _ => false) vs = vs
  | [] => rfl
  | v :: vs => by rw [maskPs_cons, maskP_empty v, maskPs_empty vs]
theorem maskFields_empty (id : Nat) : ∀ (k : Nat) (vs : List V), maskFields (fun _ _ _ => false) id k vs = vs
  | _, [] => rfl
  | k, v :: vs => by
      rw [maskFields_cons, maskP_empty v, maskFields_empty id (k + 1) vs]
      -- what the empty set holds of a field is `noq`
      exact congrArg (· :: vs) (blankP_noq v)
end

end Gopatch
