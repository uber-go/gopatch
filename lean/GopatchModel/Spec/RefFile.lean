import GopatchModel.Spec.All
import GopatchModel.Spec.Traverse
/-
  Spec/RefFile.lean — the reference matcher at file level: which nodes of a file
  are instances of a change's pattern although the engine's node matcher rejects
  them (`missedNodes`).  For patterns without elisions there are none.
-/
namespace Gopatch

/-- `nodeMatch` with the reference matcher in place of the engine's -/
def nodeMatchAll (c : Change) (d : Data) (n : V) : List Data :=
  if c.minus.kind == "stmts" then
    match n with
    | .ptr t _ fs =>
        (match stmtFieldIdx t with
         | some si =>
             (match fs[si]? with
              | some sv => allV c.mt (stmtPattern c c.minus) sv
                             { d with stmt := some { ty := t, stmtIdx := si, fields := fs } }
              | none => [])
         | none => [])
    | _ => []
  else allV c.mt c.minus.node n d

/-- whatever the engine's node matcher accepts, the reference matcher accepts -/
theorem nodeMatch_sub (c : Change) (d d' : Data) (n : V) (h : nodeMatch c d n = some d') : d' ∈ nodeMatchAll c d n := by
  revert h
  unfold nodeMatchAll
  fun_cases nodeMatch c d n with
  | case1 hk t id fs si hsi sv hsv => -- a statement pattern at a node that has a statement list
    simp only [hk, ↓reduceIte, hsi, hsv]
    exact matchV_sub _ _ _ _ _
  | case2 | case3 | case4 => nofun -- a statement pattern at any other value
  | case5 n hk => -- an expression or declaration pattern
    simp only [hk]
    exact matchV_sub _ _ _ _ _

/-- the data the node matcher starts from (package and import guards), if the guards hold: the guard part of
`fileMatch`, repeated here because `fileMatch` does not expose it -/
def guardData (c : Change) (f : FileM) : Option Data :=
  if c.minus.pkg != "" && c.minus.pkg != f.pkg then none
  else (matchImports c.mt c.minus.imports f Data.empty).map
         (fun d => { d with matched := some (c.minus.imports.map (·.2)) })

/-- nodes (astutil.Apply pre-order) that are instances of the pattern but are not matched by the engine -/
def missedNodes (c : Change) (f : FileM) : List V :=
  match guardData c f with
  | none => []
  | some d =>
      match f.tree with
      | .ptr _ _ fs => (nodesL fs).filter (fun n => (nodeMatch c d n).isNone && !(nodeMatchAll c d n).isEmpty)
      | _ => []

/-- An expression or declaration pattern without elisions misses nothing: at every node the engine's matcher
and the reference matcher agree. -/
theorem no_elision_nothing_missed (c : Change) (f : FileM) (hk : (c.minus.kind == "stmts") = false)
    (hp : dotsFree c.minus.node = true) : missedNodes c f = [] := by
  unfold missedNodes
  cases guardData c f with
  | none => rfl
  | some d =>
    simp only
    cases f.tree <;> try rfl
    simp only
    apply List.filter_eq_nil_iff.2
    intro n _
    have : nodeMatchAll c d n = (nodeMatch c d n).toList := by
      unfold nodeMatchAll nodeMatch
      simp only [hk, Bool.false_eq_true, ↓reduceIte]
      exact allV_det c.mt c.minus.node n d hp
    rw [this]
    cases nodeMatch c d n <;> simp

end Gopatch
