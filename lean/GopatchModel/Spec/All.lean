import GopatchModel.Spec.Sound
import GopatchModel.Spec.Typing
/-
  Spec/All.lean — the reference matcher: every way a pattern can match, as a
  list of resulting data stores.  It explores every choice of runs for every
  elision, everywhere in the pattern (the engine's matcher commits to the first
  run that lets the *rest of the same list* match and never revisits a choice
  made inside a nested list).

  Its results are exactly the derivations `Run` of `Spec/Run`; on well-typed code
  `allV ≠ []` decides "is a syntactic instance" (`isInstance_iff`), which is what the C01
  check uses as its oracle for the converse direction of the property.
-/
namespace Gopatch

mutual
def allV (mt : Meta) : V → V → Data → List Data
  | .pos pv pk, g, d => (matchV mt (.pos pv pk) g d).toList
  | .str s, g, d => (matchV mt (.str s) g d).toList
  | .int n, g, d => (matchV mt (.int n) g d).toList
  | .bool b, g, d => (matchV mt (.bool b) g d).toList
  | .nilP t, g, d => (matchV mt (.nilP t) g d).toList
  | .nilI i, g, d => (matchV mt (.nilI i) g d).toList
  | .nilS e, g, d => (matchV mt (.nilS e) g d).toList
  | .iface _ pv, g, d => match g with | .iface _ gv => allV mt pv gv d | _ => []
  | .slice e ps, g, d =>
      if dotsElem e then
        (match g with
         | .slice _ gs => allSeq mt e ps gs d
         | .nilS _ => allSeq mt e ps [] d
         | _ => [])
      else
        (match g with
         | .slice _ gs => allVs mt ps gs d
         | .nilS _ => if ps.isEmpty then [d] else []
         | _ => [])
  | .ptr t _ fs, g, d =>
      if ignoredPtr t then [d]
      else if t == "ast.Ident" then
        (match mt.look (identName fs) with
         | some k => (matchMetavar k (identName fs) g d).toList
         | none => match g with
            | .ptr t' _ gs => if t == t' then allVs mt fs gs d else []
            | _ => [])
      else match forDotsKeyOf t fs with
        | some k =>
            (match g with
             | .ptr t' _ gs =>
                 (match bodyIdxOf t' with
                  | some bi =>
                      (match gs[bi]? with
                       | some gb => allNth mt fs 4 gb
                                      (d.pushFor k { ty := t', bodyIdx := bi, fields := gs })
                       | none => [])
                  | none => [])
             | _ => [])
        | none => match g with
            | .ptr t' _ gs => if t == t' then allVs mt fs gs d else []
            | _ => []
def allVs (mt : Meta) : List V → List V → Data → List Data
  | [], [], d => [d]
  | p :: ps, g :: gs, d => (allV mt p g d).flatMap (allVs mt ps gs)
  | _, _, _ => []
def allSeq (mt : Meta) (e : String) : List V → List V → Data → List Data
  | [], gs, d => if gs.isEmpty then [d] else []
  | p :: ps, gs, d =>
      match dotsKeyOf e p with
      | some k => (splits gs).flatMap (fun sr => allSeq mt e ps sr.2 (d.pushDots k sr.1))
      | none => match gs with
          | [] => []
          | g :: gs' => (allV mt p g d).flatMap (allSeq mt e ps gs')
def allNth (mt : Meta) : List V → Nat → V → Data → List Data
  | [], _, _, _ => []
  | p :: _, 0, g, d => allV mt p g d
  | _ :: ps, i+1, g, d => allNth mt ps i g d
end

section
variable {mt : Meta} {t : String} {id : Nat} {fs : List V} (g : V) (d : Data)

theorem allV_ignored (hi : ignoredPtr t = true) : allV mt (.ptr t id fs) g d = [d] := by
  unfold allV
  rw [if_pos hi]

theorem allV_metavar {k : Kind} (hk : mt.look (identName fs) = some k) :
    allV mt (.ptr "ast.Ident" id fs) g d = (matchMetavar k (identName fs) g d).toList := by
  unfold allV
  rw [if_neg (by simp [ignoredPtr]), if_pos (beq_self_eq_true _), hk]

theorem allV_forDots {k : Nat} (hk : forDotsKeyOf t fs = some k) :
    allV mt (.ptr t id fs) g d = match g with
      | .ptr t' _ gs => match bodyIdxOf t' with
        | some bi => match gs[bi]? with
          | some gb => allNth mt fs 4 gb (d.pushFor k { ty := t', bodyIdx := bi, fields := gs })
          | none => []
        | none => []
      | _ => [] := by
  unfold allV
  rw [if_neg (by simp [(forDotsKeyOf_some hk).1]), if_neg (by simp [(forDotsKeyOf_some hk).2]), hk]

theorem allV_plain (hi : ignoredPtr t = false) (hn : t = "ast.Ident" → mt.look (identName fs) = none)
    (hf : forDotsKeyOf t fs = none) :
    allV mt (.ptr t id fs) g d = match g with
      | .ptr t' _ gs => if t == t' then allVs mt fs gs d else []
      | _ => [] := by
  unfold allV
  rw [if_neg (by simp [hi])]
  split
  · rename_i ht
    rw [hn (beq_iff_eq.1 ht)]
  · rw [hf]

end

mutual
theorem allV_run (mt : Meta) : ∀ (p g : V) (d d' : Data), d' ∈ allV mt p g d → Run mt (.val p g) d d'
  | .pos _ _, _, _, _, h | .str _, _, _, _, h | .int _, _, _, _, h | .bool _, _, _, _, h
  | .nilP _, _, _, _, h | .nilI _, _, _, _, h | .nilS _, _, _, _, h => by
      unfold allV at h
      exact .leaf rfl (Option.mem_toList.1 h)
  | .iface i pv, g, d, d', h => by
      unfold allV at h
      cases g <;> simp only at h <;> try (cases h)
      exact .iface (allV_run mt pv _ d d' h)
  | .slice e ps, g, d, d', h => by
      unfold allV at h
      split at h
      · rename_i hde
        cases g <;> simp only at h <;> try (cases h)
        case nilS => exact .sliceDotsNil hde (allSeq_run mt e ps [] d d' h)
        case slice => exact .sliceDots hde (allSeq_run mt e ps _ d d' h)
      · rename_i hde
        have hde : dotsElem e = false := by simpa using hde
        cases g <;> simp only at h <;> try (cases h)
        case nilS =>
          split at h
          · rename_i hem
            cases List.mem_singleton.1 h
            rw [List.isEmpty_iff.1 hem]
            exact .sliceEmptyNil hde
          · cases h
        case slice => exact .slice hde (allVs_run mt ps _ d d' h)
  | .ptr t id fs, g, d, d', h => by
      cases ptrCase mt t fs with
      | ignored hi =>
        rw [allV_ignored g d hi] at h
        cases List.mem_singleton.1 h
        exact .ignored hi
      | metavar k ht hk =>
        subst ht
        rw [allV_metavar g d hk] at h
        exact .metavar hk (Option.mem_toList.1 h)
      | forDots k hk =>
        rw [allV_forDots g d hk] at h
        cases g <;> simp only at h <;> try (cases h)
        split at h
        · rename_i bi hbi
          split at h
          · rename_i gb hgb
            exact .forDots hk hbi hgb (allNth_run mt fs 4 gb _ d' h)
          · cases h
        · cases h
      | plain hi hn hf =>
        rw [allV_plain g d hi hn hf] at h
        cases g <;> simp only at h <;> try (cases h)
        split at h
        · rename_i ht'
          cases beq_iff_eq.1 ht'
          exact .ptr hi hn hf (allVs_run mt fs _ d d' h)
        · cases h
termination_by structural p => p
theorem allVs_run (mt : Meta) : ∀ (ps gs : List V) (d d' : Data), d' ∈ allVs mt ps gs d →
    Run mt (.list ps gs) d d'
  | [], [], d, d', h => by unfold allVs at h; cases List.mem_singleton.1 h; exact .nil
  | [], _ :: _, _, _, h | _ :: _, [], _, _, h => by unfold allVs at h; cases h
  | p :: ps, g :: gs, d, d', h => by
      unfold allVs at h
      obtain ⟨d₁, h₁, h₂⟩ := List.mem_flatMap.1 h
      exact .cons (allV_run mt p g d d₁ h₁) (allVs_run mt ps gs d₁ d' h₂)
termination_by structural ps => ps
theorem allSeq_run (mt : Meta) (e : String) : ∀ (ps gs : List V) (d d' : Data), d' ∈ allSeq mt e ps gs d →
    Run mt (.seq e ps gs) d d'
  | [], gs, d, d', h => by
      unfold allSeq at h
      split at h
      · rename_i hg
        cases List.mem_singleton.1 h
        rw [List.isEmpty_iff.1 hg]
        exact .seqNil
      · cases h
  | p :: ps, gs, d, d', h => by
      unfold allSeq at h
      split at h
      · rename_i k hk
        obtain ⟨a, ha, hb⟩ := List.mem_flatMap.1 h
        rw [← mem_splits.1 ha]
        exact .dots hk (allSeq_run mt e ps a.2 _ d' hb)
      · rename_i hk
        cases gs with
        | nil => cases h
        | cons g gs' =>
          obtain ⟨d₁, h₁, h₂⟩ := List.mem_flatMap.1 h
          exact .elem hk (allV_run mt p g d d₁ h₁) (allSeq_run mt e ps gs' d₁ d' h₂)
termination_by structural ps => ps
theorem allNth_run (mt : Meta) : ∀ (ps : List V) (i : Nat) (g : V) (d d' : Data), d' ∈ allNth mt ps i g d →
    Run mt (.nth ps i g) d d'
  | [], _, _, _, _, h => by unfold allNth at h; cases h
  | p :: _, 0, g, d, d', h => by
      unfold allNth at h
      exact .here (allV_run mt p g d d' h)
  | _ :: ps, i + 1, g, d, d', h => by
      unfold allNth at h
      exact .there (allNth_run mt ps i g d d' h)
termination_by structural ps => ps
end

def Job.all (mt : Meta) : Job → Data → List Data
  | .val p g => allV mt p g
  | .list ps gs => allVs mt ps gs
  | .seq e ps gs => allSeq mt e ps gs
  | .nth ps i g => allNth mt ps i g

theorem Run.mem_all {mt : Meta} {j d d'} (h : Run mt j d d') : d' ∈ j.all mt d := by
  induction h with
  | @leaf p _ _ _ hl h => cases p <;> cases hl <;> (rw [Job.all, allV.eq_def]; exact Option.mem_toList.2 h)
  | iface _ ih => rw [Job.all, allV.eq_def]; exact ih
  | sliceDots hd _ ih => rw [Job.all, allV.eq_def]; simp only [hd, ↓reduceIte]; exact ih
  | sliceDotsNil hd _ ih => rw [Job.all, allV.eq_def]; simp only [hd, ↓reduceIte]; exact ih
  | slice hd _ ih => rw [Job.all, allV.eq_def]; simp only [hd, Bool.false_eq_true, ↓reduceIte]; exact ih
  | sliceEmptyNil hd => rw [Job.all, allV.eq_def]; simp [hd]
  | ignored hi => rw [Job.all, allV_ignored _ _ hi]; exact List.mem_singleton.2 rfl
  | metavar hk h => rw [Job.all, allV_metavar _ _ hk]; exact Option.mem_toList.2 h
  | forDots hk hbi hgb _ ih =>
      rw [Job.all, allV_forDots _ _ hk]
      simp only [hbi, hgb]
      exact ih
  | ptr hi hn hf _ ih =>
      rw [Job.all, allV_plain _ _ hi hn hf]
      simp only [beq_self_eq_true, ↓reduceIte]
      exact ih
  | nil => rw [Job.all, allVs.eq_def]; exact List.mem_singleton.2 rfl
  | cons _ _ ih ihs => rw [Job.all, allVs.eq_def]; exact List.mem_flatMap.2 ⟨_, ih, ihs⟩
  | seqNil => rw [Job.all, allSeq.eq_def]; exact List.mem_singleton.2 rfl
  | dots hk _ ih =>
      rw [Job.all, allSeq.eq_def]; simp only [hk]
      exact List.mem_flatMap.2 ⟨(_, _), mem_splits.2 rfl, ih⟩
  | elem hk _ _ ih ihs =>
      rw [Job.all, allSeq.eq_def]; simp only [hk]
      exact List.mem_flatMap.2 ⟨_, ih, ihs⟩
  | here _ ih => rw [Job.all, allNth.eq_def]; exact ih
  | there _ ih => rw [Job.all, allNth.eq_def]; exact ih

theorem allV_sound (mt : Meta) : ∀ (p g : V) (d d' : Data), d' ∈ allV mt p g d →
    Mono d d' ∧ ∀ σ, Ext d' σ → Inst mt σ p g :=
  fun p g d d' h => (allV_run mt p g d d' h).sound
theorem allSeq_sound (mt : Meta) (e : String) : ∀ (ps gs : List V) (d d' : Data), d' ∈ allSeq mt e ps gs d →
    Mono d d' ∧ ∀ σ, Ext d' σ → InstSeq mt σ e ps gs :=
  fun ps gs d d' h => (allSeq_run mt e ps gs d d' h).sound
theorem allNth_sound (mt : Meta) : ∀ (ps : List V) (i : Nat) (g : V) (d d' : Data), d' ∈ allNth mt ps i g d →
    Mono d d' ∧ ∀ σ, Ext d' σ → InstNth mt σ ps i g :=
  fun ps i g d d' h => (allNth_run mt ps i g d d' h).sound

/-- whatever the engine's matcher returns is one of the results of the reference matcher -/
theorem matchV_sub (mt : Meta) : ∀ (p g : V) (d d' : Data), matchV mt p g d = some d' → d' ∈ allV mt p g d :=
  fun p g d d' h => (matchV_run mt p g d d' h).mem_all
theorem matchSeq_sub (mt : Meta) (e : String) : ∀ (ps gs : List V) (d d' : Data), matchSeq mt e ps gs d = some d' →
    d' ∈ allSeq mt e ps gs d :=
  fun ps gs d d' h => (matchSeq_run mt e ps gs d d' h).mem_all
theorem matchNth_sub (mt : Meta) : ∀ (ps : List V) (i : Nat) (g : V) (d d' : Data), matchNth mt ps i g d = some d' →
    d' ∈ allNth mt ps i g d :=
  fun ps i g d d' h => (matchNth_run mt ps i g d d' h).mem_all

/-- code a metavariable may stand for: a node (not a comment or object), well-typed, in parser normal form -/
def GoodV (sc : Schema) (v : V) : Prop := dynOK v = true ∧ wtv sc v = true ∧ nf v = true
def GoodSubst (sc : Schema) (σ : Subst) : Prop := ∀ n c, σ.lookup n = some c → GoodV sc c
/-- every binding made so far stands for code that the substitution's value matches -/
def Compat (sc : Schema) (d : Data) (σ : Subst) : Prop :=
  ∀ n v, d.lookMv n = some v → GoodV sc v ∧ ∃ c, σ.lookup n = some c ∧ eqvM c v = true

/-- the metavariable step: a later occurrence agrees with the first one -/
theorem matchMetavar_complete (sc : Schema) (σ : Subst) (hσ : GoodSubst sc σ) (k : Kind) (name : String) (g c : V) (d : Data)
    (hk : kindOK k g = true) (hn : g.isNil = false) (hl : σ.lookup name = some c) (he : eqvM c g = true)
    (wg : wtv sc g = true) (ng : nf g = true) (hc : Compat sc d σ) :
    ∃ d', matchMetavar k name g d = some d' ∧ Compat sc d' σ := by
  have hg : GoodV sc g := ⟨kindOK_dynOK k g hk hn, wg, ng⟩
  cases hv : d.lookMv name with
  | some v =>
    obtain ⟨⟨dv, wv, nv⟩, c', hc', hev⟩ := hc name v hv
    cases hl.symm.trans hc'
    obtain ⟨dc, wc, -⟩ := hσ name c hl
    refine ⟨d, matchMetavar_some.2 ⟨hk, hn, .inl ⟨v, hv, ?_, rfl⟩⟩, hc⟩
    exact eqvM_euclid sc c v g wc wv wg nv ng (dyn_tag_eq c v dc dv hev) (dyn_tag_eq c g dc hg.1 he) hev he
  | none =>
    exact ⟨_, matchMetavar_some.2 ⟨hk, hn, .inr ⟨hv, rfl⟩⟩, forall_lookMv_pushMv ⟨hg, c, hl, he⟩ hc⟩

section
variable {sc : Schema} {mt : Meta} {σ : Subst}

mutual
/-- If the code is an instance of the pattern under a substitution by well-typed code, and the bindings
made so far agree with that substitution, there is a derivation whose bindings still agree with it. -/
theorem run_of_inst (hσ : GoodSubst sc σ) : ∀ (p g : V), Inst mt σ p g →
    Typed sc g → ∀ d, Compat sc d σ → ∃ d', Run mt (.val p g) d d' ∧ Compat sc d' σ
  | .pos _ _, _, hi, _, d, hc | .str _, _, hi, _, d, hc | .int _, _, hi, _, d, hc | .bool _, _, hi, _, d, hc
  | .nilP _, _, hi, _, d, hc | .nilI _, _, hi, _, d, hc | .nilS _, _, hi, _, d, hc => by
      obtain ⟨d', h⟩ := matchV_leaf_of_inst rfl hi d
      refine ⟨d', .leaf rfl h, ?_⟩
      rcases (matchV_leaf rfl h).1 with rfl | ⟨k, rfl⟩ <;> exact hc
  | .iface _ pv, _, .iface _ _ _ gv h, wg, d, hc =>
      let ⟨d', r, c⟩ := run_of_inst hσ pv gv h wg.iface d hc
      ⟨d', .iface r, c⟩
  | .slice e ps, _, .sliceDots _ _ _ gs hd h, wg, d, hc =>
      let ⟨d', r, c⟩ := runSeq_of_inst hσ e ps gs h wg.slice d hc
      ⟨d', .sliceDots hd r, c⟩
  | .slice e ps, _, .sliceDotsNil _ _ _ hd h, _, d, hc =>
      let ⟨d', r, c⟩ := runSeq_of_inst hσ e ps [] h .nil d hc
      ⟨d', .sliceDotsNil hd r, c⟩
  | .slice _ ps, _, .slice _ _ _ gs hd h, wg, d, hc =>
      let ⟨d', r, c⟩ := runList_of_inst hσ ps gs h wg.slice d hc
      ⟨d', .slice hd r, c⟩
  | .slice _ _, _, .sliceEmptyNil _ _ hd, _, d, hc => ⟨d, .sliceEmptyNil hd, hc⟩
  | .ptr _ _ _, _, .ignoredPtr _ _ _ _ hi, _, d, hc => ⟨d, .ignored hi, hc⟩
  | .ptr _ _ fs, g, .metavar _ _ k _ c hk hko hn hl he, wg, d, hc =>
      let ⟨d', h, c'⟩ := matchMetavar_complete sc σ hσ k (identName fs) g c d hko hn hl he wg.1 wg.2 hc
      ⟨d', .metavar hk h, c'⟩
  | .ptr _ _ fs, _, .forDots _ _ _ k t' _ gs bi gb hk hbi hgb h, wg, d, hc =>
      let ⟨d', r, c⟩ := runNth_of_inst hσ fs 4 gb h ((wg.ptr (bodyIdx_not_ignored hbi)).get hgb)
        (d.pushFor k { ty := t', bodyIdx := bi, fields := gs }) hc
      ⟨d', .forDots hk hbi hgb r, c⟩
  | .ptr t _ fs, _, .ptr _ _ _ _ gs hn hf h, wg, d, hc => by
      cases hi : ignoredPtr t with
      | true => exact ⟨d, .ignored hi, hc⟩
      | false =>
        obtain ⟨d', r, c⟩ := runList_of_inst hσ fs gs h (wg.ptr hi) d hc
        exact ⟨d', .ptr hi hn hf r, c⟩
termination_by structural p => p
theorem runList_of_inst (hσ : GoodSubst sc σ) : ∀ (ps gs : List V),
    InstList mt σ ps gs → TypedL sc gs → ∀ d, Compat sc d σ → ∃ d', Run mt (.list ps gs) d d' ∧ Compat sc d' σ
  | [], _, .nil, _, d, hc => ⟨d, .nil, hc⟩
  | p :: ps, _, .cons _ g _ gs h hs, wg, d, hc =>
      let ⟨d₁, r₁, c₁⟩ := run_of_inst hσ p g h wg.head d hc
      let ⟨d', r, c⟩ := runList_of_inst hσ ps gs hs wg.tail d₁ c₁
      ⟨d', .cons r₁ r, c⟩
termination_by structural ps => ps
theorem runSeq_of_inst (hσ : GoodSubst sc σ) (e : String) : ∀ (ps gs : List V),
    InstSeq mt σ e ps gs → TypedL sc gs → ∀ d, Compat sc d σ → ∃ d', Run mt (.seq e ps gs) d d' ∧ Compat sc d' σ
  | [], _, .nil _, _, d, hc => ⟨d, .seqNil, hc⟩
  | _ :: ps, _, .dots _ _ k _ run rest hk hs, wg, d, hc =>
      let ⟨d', r, c⟩ := runSeq_of_inst hσ e ps rest hs wg.append_right (d.pushDots k run) hc
      ⟨d', .dots hk r, c⟩
  | p :: ps, _, .elem _ _ g _ gs hk h hs, wg, d, hc =>
      let ⟨d₁, r₁, c₁⟩ := run_of_inst hσ p g h wg.head d hc
      let ⟨d', r, c⟩ := runSeq_of_inst hσ e ps gs hs wg.tail d₁ c₁
      ⟨d', .elem hk r₁ r, c⟩
termination_by structural ps => ps
theorem runNth_of_inst (hσ : GoodSubst sc σ) : ∀ (ps : List V) (i : Nat) (g : V),
    InstNth mt σ ps i g → Typed sc g → ∀ d, Compat sc d σ → ∃ d', Run mt (.nth ps i g) d d' ∧ Compat sc d' σ
  | p :: _, 0, g, .here _ _ _ h, wg, d, hc =>
      let ⟨d', r, c⟩ := run_of_inst hσ p g h wg d hc
      ⟨d', .here r, c⟩
  | _ :: ps, i + 1, g, .there _ _ _ _ h, wg, d, hc =>
      let ⟨d', r, c⟩ := runNth_of_inst hσ ps i g h wg d hc
      ⟨d', .there r, c⟩
termination_by structural ps => ps
end

end

theorem allV_complete (sc : Schema) (mt : Meta) (σ : Subst) (hσ : GoodSubst sc σ) : ∀ (p g : V), Inst mt σ p g →
    wtv sc g = true → nf g = true → ∀ d, Compat sc d σ → ∃ d', d' ∈ allV mt p g d ∧ Compat sc d' σ :=
  fun p g hi wg ng d hc => let ⟨d', r, c⟩ := run_of_inst hσ p g hi ⟨wg, ng⟩ d hc; ⟨d', r.mem_all, c⟩
theorem allVs_complete (sc : Schema) (mt : Meta) (σ : Subst) (hσ : GoodSubst sc σ) : ∀ (ps gs : List V), InstList mt σ ps gs →
    wtvs sc gs = true → nfs gs = true → ∀ d, Compat sc d σ → ∃ d', d' ∈ allVs mt ps gs d ∧ Compat sc d' σ :=
  fun ps gs hi wg ng d hc => let ⟨d', r, c⟩ := runList_of_inst hσ ps gs hi ⟨wg, ng⟩ d hc; ⟨d', r.mem_all, c⟩
theorem allSeq_complete (sc : Schema) (mt : Meta) (σ : Subst) (hσ : GoodSubst sc σ) (e : String) : ∀ (ps gs : List V),
    InstSeq mt σ e ps gs → wtvs sc gs = true → nfs gs = true → ∀ d, Compat sc d σ →
    ∃ d', d' ∈ allSeq mt e ps gs d ∧ Compat sc d' σ :=
  fun ps gs hi wg ng d hc => let ⟨d', r, c⟩ := runSeq_of_inst hσ e ps gs hi ⟨wg, ng⟩ d hc; ⟨d', r.mem_all, c⟩
theorem allNth_complete (sc : Schema) (mt : Meta) (σ : Subst) (hσ : GoodSubst sc σ) : ∀ (ps : List V) (i : Nat) (g : V),
    InstNth mt σ ps i g → wtv sc g = true → nf g = true → ∀ d, Compat sc d σ →
    ∃ d', d' ∈ allNth mt ps i g d ∧ Compat sc d' σ :=
  fun ps i g hi wg ng d hc => let ⟨d', r, c⟩ := runNth_of_inst hσ ps i g hi ⟨wg, ng⟩ d hc; ⟨d', r.mem_all, c⟩

/-! ### Patterns without elisions: the engine's matcher is the reference matcher -/

def noDotsElems (e : String) : List V → Bool
  | [] => true
  | v :: vs => (dotsKeyOf e v).isNone && noDotsElems e vs

mutual
def dotsFree : V → Bool
  | .iface _ v => dotsFree v
  | .slice e vs => noDotsElems e vs && dotsFreeL vs
  | .ptr t _ fs => ignoredPtr t || ((forDotsKeyOf t fs).isNone && dotsFreeL fs)
  | _ => true
def dotsFreeL : List V → Bool
  | [] => true
  | v :: vs => dotsFree v && dotsFreeL vs
end

mutual
theorem allV_det (mt : Meta) : ∀ (p g : V) (d : Data), dotsFree p = true → allV mt p g d = (matchV mt p g d).toList
  | .pos _ _, _, _, _ | .str _, _, _, _ | .int _, _, _, _ | .bool _, _, _, _
  | .nilP _, _, _, _ | .nilI _, _, _, _ | .nilS _, _, _, _ => by rw [allV.eq_def]
  | .iface i pv, g, d, h => by
      unfold dotsFree at h
      unfold allV matchV
      cases g <;> simp only [Option.toList_none]
      case iface _ gv => exact allV_det mt pv gv d h
  | .slice e ps, g, d, h => by
      simp only [dotsFree, Bool.and_eq_true] at h
      unfold allV matchV
      by_cases hd : dotsElem e = true
      · simp only [hd, ↓reduceIte]
        cases g <;> simp only [Option.toList_none]
        case nilS => exact allSeq_det mt e ps [] d h.1 h.2
        case slice _ gs => exact allSeq_det mt e ps gs d h.1 h.2
      · simp only [hd, Bool.false_eq_true, ↓reduceIte]
        cases g <;> simp only [Option.toList_none]
        case nilS => by_cases he : ps.isEmpty = true <;> simp [he]
        case slice _ gs => exact allVs_det mt ps gs d h.2
  | .ptr t id fs, g, d, h => by
      unfold dotsFree at h
      cases ptrCase mt t fs with
      | ignored hi => rw [allV_ignored g d hi, matchV_ignored g d hi]; rfl
      | metavar k ht hk => subst ht; rw [allV_metavar g d hk, matchV_metavar g d hk]
      | forDots k hk => simp [(forDotsKeyOf_some hk).1, hk] at h
      | plain hi hn hf =>
        rw [hi, Bool.false_or, Bool.and_eq_true] at h
        rw [allV_plain g d hi hn hf, matchV_plain g d hi hn hf]
        cases g <;> simp only [Option.toList_none]
        case ptr t' _ gs =>
          split
          · exact allVs_det mt fs gs d h.2
          · rfl
termination_by structural p => p
theorem allVs_det (mt : Meta) : ∀ (ps gs : List V) (d : Data), dotsFreeL ps = true →
    allVs mt ps gs d = (matchVs mt ps gs d).toList
  | [], [], _, _ | [], _ :: _, _, _ | _ :: _, [], _, _ => by rw [allVs.eq_def, matchVs.eq_def]; simp
  | p :: ps, g :: gs, d, h => by
      simp only [dotsFreeL, Bool.and_eq_true] at h
      unfold allVs matchVs
      rw [allV_det mt p g d h.1, Option.toList_bind]
      exact congrArg (List.flatMap · _) (funext fun x => allVs_det mt ps gs x h.2)
termination_by structural ps => ps
theorem allSeq_det (mt : Meta) (e : String) : ∀ (ps gs : List V) (d : Data), noDotsElems e ps = true → dotsFreeL ps = true →
    allSeq mt e ps gs d = (matchSeq mt e ps gs d).toList
  | [], gs, d, _, _ => by
      unfold allSeq matchSeq
      by_cases hg : gs.isEmpty = true <;> simp [hg]
  | p :: ps, gs, d, hn, h => by
      simp only [dotsFreeL, Bool.and_eq_true] at h
      simp only [noDotsElems, Bool.and_eq_true, Option.isNone_iff_eq_none] at hn
      rw [allSeq.eq_def, matchSeq.eq_def]; simp only [hn.1]
      cases gs with
      | nil => simp
      | cons g gs' =>
        simp only
        rw [allV_det mt p g d h.1, Option.toList_bind]
        exact congrArg (List.flatMap · _) (funext fun x => allSeq_det mt e ps gs' x hn.2 h.2)
termination_by structural ps => ps
end

/-- Completeness of the engine's matcher for patterns without elisions, repeated metavariables included:
every instance (under a substitution by well-typed code) is matched. -/
theorem matchV_complete_nodots (sc : Schema) (mt : Meta) (σ : Subst) (hσ : GoodSubst sc σ) (p g : V)
    (hp : dotsFree p = true) (hi : Inst mt σ p g) (wg : wtv sc g = true) (ng : nf g = true)
    (d : Data) (hc : Compat sc d σ) : ∃ d', matchV mt p g d = some d' ∧ Compat sc d' σ := by
  obtain ⟨d', hm, hc'⟩ := allV_complete sc mt σ hσ p g hi wg ng d hc
  rw [allV_det mt p g d hp] at hm
  exact ⟨d', Option.mem_toList.1 hm, hc'⟩

/-! ### every binding is well-typed code: the reference matcher decides exactly "is an instance" -/

def AllGood (sc : Schema) (d : Data) : Prop := ∀ n v, d.lookMv n = some v → GoodV sc v

def Job.Typed (sc : Schema) : Job → Prop
  | .val _ g => Gopatch.Typed sc g
  | .list _ gs => TypedL sc gs
  | .seq _ _ gs => TypedL sc gs
  | .nth _ _ g => Gopatch.Typed sc g

theorem Run.good {sc : Schema} {mt : Meta} {j d d'} (h : Run mt j d d') : j.Typed sc → AllGood sc d → AllGood sc d' := by
  induction h with
  | leaf hl h => rcases (matchV_leaf hl h).1 with rfl | ⟨k, rfl⟩ <;> exact fun _ hc => hc
  | sliceEmptyNil | ignored | nil | seqNil => exact fun _ hc => hc
  | iface _ ih => exact fun wg => ih wg.iface
  | sliceDots _ _ ih => exact fun wg => ih wg.slice
  | sliceDotsNil _ _ ih => exact fun _ => ih .nil
  | slice _ _ ih => exact fun wg => ih wg.slice
  | metavar _ h =>
      intro wg hc
      obtain ⟨hok, hnil, ⟨c, _, _, rfl⟩ | ⟨_, rfl⟩⟩ := matchMetavar_some.1 h
      · exact hc
      · exact forall_lookMv_pushMv ⟨kindOK_dynOK _ _ hok hnil, wg⟩ hc
  | forDots _ hbi hgb _ ih => exact fun wg => ih ((wg.ptr (bodyIdx_not_ignored hbi)).get hgb)
  | ptr hi _ _ _ ih => exact fun wg => ih (wg.ptr hi)
  | cons _ _ ih ihs => exact fun wg hc => ihs wg.tail (ih wg.head hc)
  | dots _ _ ih => exact fun wg => ih wg.append_right
  | elem _ _ _ ih ihs => exact fun wg hc => ihs wg.tail (ih wg.head hc)
  | here _ ih => exact ih
  | there _ ih => exact ih

theorem allVs_good (sc : Schema) (mt : Meta) : ∀ (ps gs : List V) (d d' : Data), d' ∈ allVs mt ps gs d →
    wtvs sc gs = true → nfs gs = true → AllGood sc d → AllGood sc d' :=
  fun ps gs d d' h wg ng => (allVs_run mt ps gs d d' h).good ⟨wg, ng⟩
theorem allSeq_good (sc : Schema) (mt : Meta) (e : String) : ∀ (ps gs : List V) (d d' : Data), d' ∈ allSeq mt e ps gs d →
    wtvs sc gs = true → nfs gs = true → AllGood sc d → AllGood sc d' :=
  fun ps gs d d' h wg ng => (allSeq_run mt e ps gs d d' h).good ⟨wg, ng⟩
theorem allNth_good (sc : Schema) (mt : Meta) : ∀ (ps : List V) (i : Nat) (g : V) (d d' : Data), d' ∈ allNth mt ps i g d →
    wtv sc g = true → nf g = true → AllGood sc d → AllGood sc d' :=
  fun ps i g d d' h wg ng => (allNth_run mt ps i g d d' h).good ⟨wg, ng⟩

/-- the reference matcher has a result -/
def isInstance (mt : Meta) (p g : V) (d : Data) : Bool := !(allV mt p g d).isEmpty

/-- **The reference matcher decides "is a syntactic instance"**: on a well-typed tree in parser normal form it has
a result exactly when some substitution of well-typed code for the metavariables (and some run for every elision)
makes the code an instance of the pattern. -/
theorem isInstance_iff (sc : Schema) (mt : Meta) (p g : V) (wg : wtv sc g = true) (ng : nf g = true) :
    isInstance mt p g Data.empty = true ↔ ∃ σ, GoodSubst sc σ ∧ Inst mt σ p g := by
  rw [isInstance, Bool.not_eq_true', List.isEmpty_eq_false_iff_exists_mem]
  constructor
  · rintro ⟨d', h⟩
    have hr := allV_run mt p g Data.empty d' h
    exact ⟨d'.mv, hr.good ⟨wg, ng⟩ (fun _ _ hv => nomatch hv), hr.inst (Ext.self d')⟩
  · rintro ⟨σ, hσ, hi⟩
    obtain ⟨d', hm, _⟩ := allV_complete sc mt σ hσ p g hi wg ng Data.empty (fun _ _ hv => nomatch hv)
    exact ⟨d', hm⟩

end Gopatch
