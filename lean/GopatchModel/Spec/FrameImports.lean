import GopatchModel.Spec.FrameFile
import GopatchModel.Spec.ImportsOnly
/-
  Spec/FrameImports.lean — the frame of a change that also edits the import declarations.

  `applyChange` runs the replacement loop, then makes the import declarations follow the new import list
  (`syncImports`: specs added to the first import declaration or a new declaration in front, specs deleted, emptied
  declarations dropped — the element indexes of `File.Decls` shift), then numbers the nodes the replacer built.
  What is left of the frame when indexes shift: the declarations other than import declarations are, in order, the ones the
  replacement loop left, which are index by index the original ones once the slots of the sites are blanked.
-/
namespace Gopatch

/-- numbering keeps what kind of declaration an element is -/
theorem isImportGenDecl_renum (x : V) (n : Nat) : isImportGenDecl (renumV x n).1 = isImportGenDecl x := by
  cases x with
  | iface i v =>
    cases v with
    | ptr t id fs =>
      rw [renumV_iface, renumV_ptr]
      match fs with
      | a :: b :: c :: rest =>
        rw [renumVs_cons, renumVs_cons, renumVs_cons]
        -- the token field: numbering leaves an `.int` as it is and turns nothing else into one
        cases c with
        | ptr t' id' fs' => rw [renumV_ptr]; rfl
        | _ => rfl
      | [] | [_] | [_, _] => rfl
    | _ => rfl
  | ptr t id fs => rw [renumV_ptr]; rfl
  | _ => rfl

/-- numbering a list of declarations: the declarations other than import declarations stay what they were once the
slots of `P` are blanked, whatever numbers the import declarations in between used up -/
theorem renumVs_others_masked (P : Slots) : ∀ (ds : List V) (n : Nat),
    (∀ x ∈ ds, notImport x = true → FreshUnder P noq x) →
    ((renumVs ds n).1.filter notImport).map (maskP P) = (ds.filter notImport).map (maskP P)
  | [], n, _ => rfl
  | x :: xs, n, h => by
    have ih := renumVs_others_masked P xs (renumV x n).2 (fun y hy => h y (List.mem_cons_of_mem _ hy))
    have hk : notImport (renumV x n).1 = notImport x := by rw [notImport, isImportGenDecl_renum, notImport]
    rw [renumVs_cons, List.filter_cons, List.filter_cons, hk]
    split
    · next hx => rw [List.map_cons, List.map_cons, ih, renumbering_keeps_frame P x n (h x List.mem_cons_self hx)]
    · exact ih

theorem freshElems_all (P : Slots) : ∀ (j : Nat) (xs : List V), FreshElems P noq j xs → ∀ x ∈ xs, FreshUnder P noq x
  | _, [], _, _, hx => nomatch hx
  | j, y :: ys, h, x, hx => by
    rw [freshElems_cons] at h
    rcases List.mem_cons.1 hx with rfl | hx'
    · exact h.1.resolve_left Bool.false_ne_true
    · exact freshElems_all P (j + 1) ys h.2 x hx'

/-- a tree that is, slots of the set blanked, a file node none of whose declaration slots is in the set, is a file node with
the same identity whose declarations are index by index the same once blanked -/
theorem mask_file_shape (P : Slots) (t : String) (id : Nat) (doc pk nm : V) (e : String) (decls rest : List V)
    (hP : ∀ idx, P id 3 idx = false) (tree1 : V)
    (h : maskP P tree1 = maskP P (.ptr t id (doc :: pk :: nm :: .slice e decls :: rest))) :
    ∃ a b c ds1 rest1, tree1 = .ptr t id (a :: b :: c :: .slice e ds1 :: rest1) ∧ maskPs P ds1 = maskPs P decls := by
  cases tree1 with
  | ptr t1 id1 fs1 =>
    simp only [maskP_ptr, V.ptr.injEq] at h
    obtain ⟨rfl, rfl, hfs⟩ := h
    match fs1, hfs with
    | a :: b :: c :: d :: rest1, hfs =>
      simp only [maskFields_cons, List.cons.injEq] at hfs
      obtain ⟨-, -, -, h4, -⟩ := hfs
      rw [show P id1 3 = noq from funext hP, blankP_noq, blankP_noq] at h4
      cases d with
      | slice e1 ds1 =>
        simp only [maskP_slice, V.slice.injEq] at h4
        obtain ⟨rfl, hds⟩ := h4
        exact ⟨a, b, c, ds1, rest1, rfl, hds⟩
      | _ => cases h4
    | [], hfs | [_], hfs | [_, _], hfs | [_, _, _], hfs => simp [maskFields_cons, maskFields_nil] at hfs
  | _ => cases h

/-- **The import synchronisation and the numbering keep the other declarations.** For a file node whose nodes without
identity lie in slots of the set: after the import declarations were made to follow the new import list and the new nodes
were numbered, the declarations other than import declarations are, in order and slots blanked, what they were. -/
theorem sync_then_numbering_keeps_others (P : Slots) (t : String) (id : Nat) (a b c : V) (e : String) (ds rest : List V)
    (old new : List (Option String × String)) (n : Nat) (hP : ∀ idx, P id 3 idx = false)
    (hf : FreshUnder P noq (.ptr t id (a :: b :: c :: .slice e ds :: rest))) :
    (otherDecls (renumV (syncImports (.ptr t id (a :: b :: c :: .slice e ds :: rest)) old new) n).1).map (maskP P)
      = (ds.filter notImport).map (maskP P) := by
  -- no declaration slot is in the set, so every declaration satisfies the condition on its own
  have hds : ∀ x ∈ ds, FreshUnder P noq x := by
    simp only [freshUnder_ptr, freshFields_cons, show P id 3 = noq from funext hP, freshUnder_slice] at hf
    obtain ⟨-, -, -, -, hd, -⟩ := hf
    exact freshElems_all P 0 ds (hd.resolve_left Bool.false_ne_true)
  simp only [otherDecls_eq, syncImports, renumV_ptr, renumVs_cons, renumV_slice, declsOf]
  rw [renumVs_others_masked P, syncDecls_others]
  intro x hx hn
  have hx' := List.mem_filter.2 ⟨hx, hn⟩
  rw [syncDecls_others] at hx'
  exact hds x (List.mem_filter.1 hx').1

/-- non-vacuity: a file with one function; an import is added (a new declaration in front: the function's index shifts from 0
to 1); the declarations other than import declarations are what they were -/
def exFile : V := .ptr "ast.File" 1 [.nilP "doc", .pos true 0, .str "p",
  .slice "ast.Decl" [.iface "ast.Decl" (.ptr "ast.FuncDecl" 2 [.nilP "doc", .nilP "recv", .str "f"])], .pos true 1]
example : (declsOf (renumV (syncImports exFile [] [(none, "fmt")]) 10).1).length = 2 ∧ (declsOf exFile).length = 1 := by
  decide +kernel
example : otherDecls (renumV (syncImports exFile [] [(none, "fmt")]) 10).1 = otherDecls exFile := by
  rfl

end Gopatch
