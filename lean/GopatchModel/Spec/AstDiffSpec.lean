import GopatchModel.AstDiff
/-
  Spec/AstDiffSpec.lean — what the regions reported by `changeFinder.Walk` are made of:
  every start of a reported region is the start of the region the walk was given or a
  position of the old snapshot value that can start a region (Pos/End of a node, a valid
  token.Pos field, pushed right by the end of an associated comment); every end is the
  end of the region given, such a position, or one pulled left by the start of an
  associated comment.  Nothing is computed from the new tree, and nothing is invented (`walk_P`,
  for any `Flow`).  It rests on one level of `Walk` (`mem_walk_ch`), which Spec/AstDiffSame uses as well.
  Then the consequence for a list of nodes: elements not paired as identical that lie, with their regions, on
  one side of a stretch report nothing that reaches into it (`Sep`, `walkFates_clear`); and the Boolean tests
  of AstDiff.lean imply `AllPos` and `Sep` (`allPosLB_sound`, `sepB_sound`).
-/
namespace Gopatch.AD

/-- what may start a region (`A`), end one (`B`), and where comments may lie (`C`) -/
structure Flow where
  A : Nat → Prop
  B : Nat → Prop
  C : Nat → Prop
  ab : ∀ p, A p → B p
  amax : ∀ a c, A a → C c → A (max a c)
  bmin : ∀ b c, B b → C c → B (min b c)

/-- every comment of every group satisfies `P` at both ends -/
def CGAll (P : Nat → Prop) (cms : List CG) : Prop := ∀ cg ∈ cms, ∀ c ∈ cg, P c.1 ∧ P c.2

/-- the elements of a slice of nodes: their Pos/End are read whether they are nil or not -/
def ElemsOK (F : Flow) (l : List AV) : Prop := ∀ v ∈ l, F.A v.pos ∧ F.A v.stop

mutual
/-- every position of the value that can reach a region satisfies the flow: Pos/End of nodes, valid token.Pos
fields, Pos/End of the elements of slices of nodes (`A`); the comments associated with nodes (`C`) -/
def AllPos (F : Flow) : AV → Prop
  | .mk ty _ isn p e cms _ _ en kids =>
      (isn = true → F.A p ∧ F.A e) ∧ (ty = tyPos → p ≠ 0 → F.A p) ∧ CGAll F.C cms ∧
      (en = true → ElemsOK F kids) ∧ AllPosL F kids
def AllPosL (F : Flow) : List AV → Prop
  | [] => True
  | v :: vs => AllPos F v ∧ AllPosL F vs
end

def RgP (F : Flow) (r : Rg) : Prop := F.A r.pos ∧ F.B r.stop

theorem AllPos.node {F : Flow} {v : AV} (h : AllPos F v) (hn : v.isNode = true) : F.A v.pos ∧ F.A v.stop := by
  cases v; exact h.1 hn
theorem AllPos.posLeaf {F : Flow} {v : AV} (h : AllPos F v) (ht : v.ty = tyPos) (hp : v.pos ≠ 0) : F.A v.pos := by
  cases v; exact h.2.1 ht hp
theorem AllPos.cms {F : Flow} {v : AV} (h : AllPos F v) : CGAll F.C v.cms := by
  cases v; exact h.2.2.1

theorem AllPosL_mem {F : Flow} : ∀ {l : List AV}, AllPosL F l → ∀ v ∈ l, AllPos F v
  | [], _, v, hv => by cases hv
  | a :: as, h, v, hv => by
    rcases List.mem_cons.1 hv with rfl | hv
    · exact h.1
    · exact AllPosL_mem h.2 v hv

/-- the comments `commentsFor` returns are comments of the node's groups -/
theorem commentsFor_P (P : Nat → Prop) (n : AV) (h : CGAll P n.cms) :
    (∀ c ∈ (commentsFor n).1, P c.1 ∧ P c.2) ∧ (∀ c ∈ (commentsFor n).2, P c.1 ∧ P c.2) := by
  unfold commentsFor
  refine List.foldlRecOn (motive := fun (acc : CG × CG) => (∀ c ∈ acc.1, P c.1 ∧ P c.2) ∧ (∀ c ∈ acc.2, P c.1 ∧ P c.2)) _ _
    ⟨fun _ hc => (nomatch hc), fun _ hc => (nomatch hc)⟩ ?_
  intro acc hacc cg hcg
  -- a group is appended to one of the two lists, to both, or to neither
  have app : ∀ l : CG, (∀ c ∈ l, P c.1 ∧ P c.2) → ∀ c ∈ l ++ cg, P c.1 ∧ P c.2 := fun l hl c hc =>
    (List.mem_append.1 hc).elim (hl c) (h cg hcg c)
  split
  · dsimp only
    constructor
    · split
      · exact app _ hacc.1
      · exact hacc.1
    · split
      · exact app _ hacc.2
      · exact hacc.2
  · exact hacc

/-- where the trailing comments of a node stop is the node's end or the end of one of its comments -/
theorem trailEnd_P (F : Flow) (n : AV) (hstop : F.A n.stop) (h : CGAll F.C n.cms) : F.A (trailEnd n) := by
  unfold trailEnd
  refine List.foldlRecOn (motive := F.A) _ _ hstop ?_
  intro acc hacc cg hcg
  split
  · rename_i first last _ hl
    split
    · exact F.amax _ _ hacc (h cg hcg last (List.mem_of_getLast? hl)).2
    · exact hacc
  · exact hacc

theorem starts_P (F : Flow) (cs : List AV) (lastEnd : Nat) : F.A lastEnd → AllPosL F cs →
    ∀ s ∈ starts lastEnd cs, F.A s := by
  fun_induction starts lastEnd cs
  case case1 => exact fun _ _ _ h => nomatch h
  case case2 c _ hn ih =>
    exact fun _ h => List.forall_mem_cons.2 ⟨(h.1.node hn).1, ih (trailEnd_P F c (h.1.node hn).2 h.1.cms) h.2⟩
  case case3 hty ih =>
    refine fun hl h => List.forall_mem_cons.2 ⟨?_, ih hl h.2⟩
    split
    · rename_i hp
      exact h.1.posLeaf (by simpa using hty) (by simpa using hp)
    · exact hl
  case case4 ih => exact fun hl h => List.forall_mem_cons.2 ⟨hl, ih hl h.2⟩

theorem ends_P (B : Nat → Prop) (stop : Nat) (hstop : B stop) (l : List (AV × Nat)) :
    (∀ p ∈ l, (p.1.isNode = true → B p.1.stop) ∧ B p.2) → ∀ e ∈ ends stop l, B e := by
  fun_induction ends stop l
  case case1 => exact fun _ _ h => nomatch h
  case case2 c s =>
    intro h e he
    obtain rfl := List.mem_singleton.1 he
    split
    · exact (h (c, s) (List.mem_cons_self ..)).1 ‹_›
    · exact hstop
  case case3 ih =>
    intro h
    obtain ⟨hc, hrest⟩ := List.forall_mem_cons.1 h
    refine List.forall_mem_cons.2 ⟨?_, ih hrest⟩
    split
    · exact hc.1 ‹_›
    · exact (List.forall_mem_cons.1 hrest).1.2

/-- the regions of the fields of a struct are made of the region given and positions of the fields -/
theorem fieldRegions_P (F : Flow) (R : Rg) (hR : RgP F R) (fs : List AV) (hfs : AllPosL F fs) :
    ∀ r ∈ fieldRegions R fs, RgP F r := by
  intro r hr
  simp only [fieldRegions, List.mem_map] at hr
  obtain ⟨⟨s, e⟩, hmem, rfl⟩ := hr
  have hstarts := starts_P F fs R.pos hR.1 hfs
  refine ⟨hstarts s (List.of_mem_zip hmem).1, ends_P F.B R.stop hR.2 _ (fun p hp => ?_) e (List.of_mem_zip hmem).2⟩
  have := List.of_mem_zip hp
  exact ⟨fun hn => F.ab _ ((AllPosL_mem hfs p.1 this.1).node hn).2, F.ab _ (hstarts p.2 this.2)⟩

theorem elemRegion_P (F : Flow) (R : Rg) (hR : RgP F R) (prev : Option AV) (n : AV) (next : Option AV)
    (hp : ∀ v, prev = some v → F.A v.pos ∧ F.A v.stop) (hn : F.A n.pos ∧ F.A n.stop) (hc : CGAll F.C n.cms)
    (hx : ∀ v, next = some v → F.A v.pos ∧ F.A v.stop) :
    RgP F (elemRegion R prev n next) := by
  have hcn := commentsFor_P F.C n hc
  have h1 : F.A (startAfter R prev n) := by
    fun_cases startAfter R prev n with
    | case1 => exact hR.1 -- the first element
    | case2 pv => exact (hp pv rfl).2 -- no comment trails the element before
    | case3 => exact hn.1
  have h2 : F.B (endBefore R n next) := by
    fun_cases endBefore R n next with
    | case1 => exact hR.2 -- the last element
    | case2 nx => exact F.ab _ (hx nx rfl).1 -- no comment leads the element after
    | case3 => exact F.ab _ hn.2
  unfold elemRegion RgP
  dsimp only
  constructor
  · split
    · rename_i l hl
      exact F.amax _ _ h1 (hcn.1 l (List.mem_of_getLast? hl)).2
    · exact h1
  · split
    · rename_i a ha
      exact F.bmin _ _ h2 (hcn.2 a (List.mem_of_head? ha)).1
    · exact h2

theorem elemRegions_P (F : Flow) (R : Rg) (hR : RgP F R) (l : List AV) (prev : Option AV) :
    (∀ v, prev = some v → F.A v.pos ∧ F.A v.stop) → ElemsOK F l → AllPosL F l → ∀ r ∈ elemRegions R prev l, RgP F r := by
  fun_induction elemRegions R prev l
  case case1 => exact fun _ _ _ _ h => nomatch h
  case case2 prev n rest ih =>
    intro hp he hl
    obtain ⟨hn, he'⟩ := List.forall_mem_cons.1 he
    exact List.forall_mem_cons.2 ⟨elemRegion_P F R hR prev n rest.head? hp hn hl.1.cms fun v hv => he' v (List.mem_of_head? hv),
      ih (fun v hv => Option.some.inj hv ▸ hn) he' hl.2⟩

mutual
/-- the two values have the same types, the same nil-ness, the same payload (the printed basic value; for a pointer
the number of the object it points to, so the same object), token.Pos fields that are both valid or both absent, and
children that agree in the same way: the syntax did not change (it stands here
because `mem_walk_ch` below speaks of it; Spec/AstDiffSame is about it) -/
def Same : AV → AV → Prop
  | .mk ty _ _ p _ _ nl pl _ kids, to =>
      ty = to.ty ∧ (ty = tyPos → ((p != 0) = posValid to)) ∧ nl = to.isNil ∧ pl = to.payload ∧ SameL kids to.kids
def SameL : List AV → List AV → Prop
  | [], [] => True
  | f :: fs, t :: ts => Same f t ∧ SameL fs ts
  | _, _ => False
end

theorem SameL_length : ∀ (fs ts : List AV), SameL fs ts → fs.length = ts.length
  | [], [], _ => rfl
  | [], _ :: _, h | _ :: _, [], h => False.elim h
  | f :: fs, t :: ts, h => by simp [SameL_length fs ts h.2]

/-- **One level of `Walk`.** A region it reports is the region it was given, and then the two values are not `Same`, or it
is reported by one of the four walks over the children: the element, the plain elements, the elements of a slice of
nodes with their fates (this one only when the value says its elements are nodes), the fields. -/
theorem mem_walk_ch (R : Rg) (src to : AV) (r : Rg) : r ∈ (walk R src to).ch →
    (r = R ∧ ¬ Same src to) ∨ r ∈ (walkElem R src.kids to.kids).2.1 ∨ r ∈ (walkPlain R src.kids to.kids).2.1 ∨
    (src.elemNode = true ∧ r ∈ (walkFates (elemRegions R none src.kids)
      (fates (alignSlices (cmpRows src.kids to.kids) src.kids.length to.kids.length).1 0) src.kids to.kids).1) ∨
    r ∈ (walkFields (fieldRegions R src.kids) src.kids to.kids).2.1 := by
  fun_cases walk R src to
  case case1 hty =>  -- the types differ
    exact fun h => .inl ⟨List.mem_singleton.1 h, by rintro ⟨sty, -⟩; simp [sty] at hty⟩
  case case4 hp hv =>  -- one token.Pos is valid and the other is not
    exact fun h => .inl ⟨List.mem_singleton.1 h, by rintro ⟨-, spos, -⟩; simp [spos (by simpa using hp)] at hv⟩
  case case7 hnl hto =>  -- only the new pointer is nil
    exact fun h => .inl ⟨List.mem_singleton.1 h, by rintro ⟨-, -, snl, -⟩; simp [← snl, hnl] at hto⟩
  case case8 hw _ =>  -- the element of a pointer or interface
    exact fun h => .inr (.inl (by rw [AV.kids, hw]; exact h))
  case case9 hlen =>  -- plain slices of different lengths
    exact fun h => .inl ⟨List.mem_singleton.1 h, by rintro ⟨-, -, -, -, skids⟩; simp [SameL_length _ _ skids] at hlen⟩
  case case10 hw _ =>  -- the elements of a plain slice
    exact fun h => .inr (.inr (.inl (by rw [AV.kids, hw]; exact h)))
  case case11 hen _ _ _ hal _ _ _ _ hw _ _ =>  -- the elements of a slice of nodes
    exact fun h => .inr (.inr (.inr (.inl ⟨by simpa [AV.elemNode] using hen, by rw [AV.kids, hal, hw]; exact h⟩)))
  case case12 hw _ =>  -- the fields of a struct
    exact fun h => .inr (.inr (.inr (.inr (by rw [AV.kids, hw]; exact h))))
  case case14 hpl =>  -- different basic values
    exact fun h => .inl ⟨List.mem_singleton.1 h, by rintro ⟨-, -, -, spl, -⟩; simp [spl] at hpl⟩
  all_goals exact fun h => nomatch h  -- nothing is reported

/-- one element of a slice of nodes: its own region when it was deleted, what walking it reports when it was modified;
the rest comes from the elements after it -/
theorem mem_walkFates_cons {r r0 : Rg} {rs : List Rg} {ft : Fate} {fts : List Fate} {f : AV} {fs ts : List AV}
    (h : r ∈ (walkFates (r0 :: rs) (ft :: fts) (f :: fs) ts).1) :
    (ft = .deleted ∧ r = r0) ∨ (∃ j t, ft = .modified j ∧ r ∈ (walk r0 f t).ch) ∨ ∃ ts', r ∈ (walkFates rs fts fs ts').1 := by
  unfold walkFates at h
  cases ft with
  | same j => exact .inr (.inr ⟨_, h⟩)
  | modified j =>
    simp only [] at h
    split at h
    · rcases List.mem_append.1 h with h1 | h1
      · exact .inr (.inl ⟨j, _, rfl, h1⟩)
      · exact .inr (.inr ⟨_, h1⟩)
    · exact .inr (.inr ⟨_, h⟩)
  | deleted =>
    rcases List.mem_cons.1 h with rfl | h1
    · exact .inl ⟨rfl, rfl⟩
    · exact .inr (.inr ⟨_, h1⟩)

mutual
/-- every region `Walk` reports satisfies a flow that the region it was given and the old value satisfy (`A` for what may
start a region, `B` for what may end one: the end of the region given is used for ends only) -/
theorem walk_P (F : Flow) : ∀ (src : AV) (R : Rg) (to : AV), RgP F R → AllPos F src →
    ∀ r ∈ (walk R src to).ch, RgP F r
  | .mk ty k isn p e cms nl pl en kids, R, to, hR, hsrc => by
    intro r hr
    obtain ⟨_, _, _, hen, hkids⟩ := hsrc
    rcases mem_walk_ch R _ to r hr with ⟨rfl, -⟩ | h | h | ⟨he, h⟩ | h
    · exact hR
    · exact walkElem_P F kids R to.kids hR hkids r h
    · exact walkPlain_P F kids R to.kids hR hkids r h
    · exact walkFates_P F kids _ _ to.kids (elemRegions_P F R hR kids none (fun v hv => nomatch hv) (hen he) hkids) hkids r h
    · exact walkFields_P F kids _ to.kids (fieldRegions_P F R hR kids hkids) hkids r h
termination_by structural src => src
theorem walkElem_P (F : Flow) : ∀ (fs : List AV) (R : Rg) (tl : List AV), RgP F R → AllPosL F fs →
    ∀ r ∈ (walkElem R fs tl).2.1, RgP F r
  | f :: fs, R, t :: ts, hR, h => by
    rw [walkElem]
    exact walk_P F f R t hR h.1
  | [], _, _, _, _ | _ :: _, _, [], _, _ => by simp [walkElem]
termination_by structural fs => fs
theorem walkPlain_P (F : Flow) : ∀ (fl : List AV) (R : Rg) (tl : List AV), RgP F R → AllPosL F fl →
    ∀ r ∈ (walkPlain R fl tl).2.1, RgP F r
  | f :: fs, R, t :: ts, hR, h => by
    rw [walkPlain]
    exact List.forall_mem_append.2 ⟨walk_P F f R t hR h.1, walkPlain_P F fs R ts hR h.2⟩
  | [], _, _, _, _ | _ :: _, _, [], _, _ => by simp [walkPlain]
termination_by structural fl => fl
theorem walkFields_P (F : Flow) : ∀ (fl : List AV) (rl : List Rg) (tl : List AV), (∀ r ∈ rl, RgP F r) → AllPosL F fl →
    ∀ r ∈ (walkFields rl fl tl).2.1, RgP F r
  | f :: fs, r0 :: rs, t :: ts, hR, h => by
    rw [walkFields]
    obtain ⟨h0, hrs⟩ := List.forall_mem_cons.1 hR
    exact List.forall_mem_append.2 ⟨walk_P F f r0 t h0 h.1, walkFields_P F fs rs ts hrs h.2⟩
  | [], _, _, _, _ | _ :: _, [], _, _, _ | _ :: _, _ :: _, [], _, _ => by simp [walkFields]
termination_by structural fl => fl
theorem walkFates_P (F : Flow) : ∀ (fl : List AV) (rl : List Rg) (ftl : List Fate) (ts : List AV),
    (∀ r ∈ rl, RgP F r) → AllPosL F fl → ∀ r ∈ (walkFates rl ftl fl ts).1, RgP F r
  | f :: fs, r0 :: rs, ft :: fts, ts, hR, h => by
    obtain ⟨h0, hrs⟩ := List.forall_mem_cons.1 hR
    intro r hr
    rcases mem_walkFates_cons hr with ⟨-, rfl⟩ | ⟨_, t, -, h1⟩ | ⟨ts', h1⟩
    · exact h0
    · exact walk_P F f r0 t h0 h.1 r h1
    · exact walkFates_P F fs rs fts ts' hrs h.2 r h1
  | [], _, _, _, _, _ | _ :: _, [], _, _, _, _ | _ :: _, _ :: _, [], _, _, _ => by simp [walkFates]
termination_by structural fl => fl
end

/-- a flow in which everything satisfies one predicate (closed under max and min because these pick one of their arguments) -/
def flowOf (P : Nat → Prop) : Flow :=
  { A := P, B := P, C := P, ab := fun _ h => h,
    amax := fun a c ha hc => by
      rcases Nat.le_total a c with h | h
      · rw [Nat.max_eq_right h]; exact hc
      · rw [Nat.max_eq_left h]; exact ha
    bmin := fun b c hb hc => by
      rcases Nat.le_total b c with h | h
      · rw [Nat.min_eq_left h]; exact hb
      · rw [Nat.min_eq_right h]; exact hc }

/-- everything at or before the start of the stretch `[lo, hi)` -/
def leftFlow (lo : Nat) : Flow := flowOf (fun p => p ≤ lo)

/-- starts at or after the end of the stretch `[lo, hi)`; ends and comments are free: a comment only pushes a start to the
right or pulls an end to the left (the region of the last declaration of a file ends at FileStart, an inverted region;
go/ast's comment map may hand a comment that lies inside one declaration to the next one) -/
def rightFlow (hi : Nat) : Flow :=
  { A := fun p => hi ≤ p, B := fun _ => True, C := fun _ => True, ab := fun _ _ => trivial,
    amax := fun a c ha _ => Nat.le_trans ha (Nat.le_max_left a c), bmin := fun _ _ _ _ => trivial }

/-- the element and its region lie on one side of the stretch `[lo, hi)` -/
def OneSide (lo hi : Nat) (r : Rg) (f : AV) : Prop :=
  (RgP (leftFlow lo) r ∧ AllPos (leftFlow lo) f) ∨ (RgP (rightFlow hi) r ∧ AllPos (rightFlow hi) f)

/-- the region does not reach into `[lo, hi)` -/
def clearOfStretch (lo hi : Nat) (r : Rg) : Prop := r.stop ≤ lo ∨ hi ≤ r.pos

/-- every element of the old list that is not paired as identical lies, with its region, on one side of `[lo, hi)` -/
def Sep (lo hi : Nat) : List AV → List Rg → List Fate → Prop
  | f :: fs, r :: rs, ft :: fts =>
      (match ft with
       | .same _ => True
       | _ => OneSide lo hi r f) ∧ Sep lo hi fs rs fts
  | _, _, _ => True

/-- when every element not paired as identical lies, with its region, on one side of the stretch `[lo, hi)`, no region
reported for the list reaches into the stretch, whatever the new list is (each such region is the element's own or
reported by walking the element: `mem_walkFates_cons`, `walk_P`) -/
theorem walkFates_clear (lo hi : Nat) : ∀ (fl : List AV) (rl : List Rg) (ftl : List Fate) (ts : List AV),
    Sep lo hi fl rl ftl → ∀ r ∈ (walkFates rl ftl fl ts).1, clearOfStretch lo hi r
  | f :: fs, r0 :: rs, ft :: fts, ts, h => by
    intro r hr
    obtain ⟨h0, hrest⟩ := h
    rcases mem_walkFates_cons hr with ⟨rfl, rfl⟩ | ⟨_, t, rfl, h1⟩ | ⟨ts', h1⟩
    · rcases h0 with ⟨hr0, _⟩ | ⟨hr0, _⟩
      · exact Or.inl hr0.2
      · exact Or.inr hr0.1
    · rcases h0 with ⟨hr0, hf⟩ | ⟨hr0, hf⟩
      · exact Or.inl (walk_P _ f r0 t hr0 hf r h1).2
      · exact Or.inr (walk_P _ f r0 t hr0 hf r h1).1
    · exact walkFates_clear lo hi fs rs fts ts' hrest r h1
  | [], _, _, _, _ | _ :: _, [], _, _, _ | _ :: _, _ :: _, [], _, _ => by simp [walkFates]

/-- so for `Walk` on a slice of nodes whose type is not an ignored one: under `Sep` for its elements and the fates
`alignSlices` gives them, no region it reports reaches into the stretch -/
theorem walk_nodes_clear (lo hi : Nat) (R : Rg) (ty : String) (isn : Bool) (p e : Nat) (cms : List CG) (nl : Bool) (pl : String)
    (kids : List AV) (to : AV) (hty : ty = to.ty) (h1 : ty ≠ tyObject) (h2 : ty ≠ tyCommentGroup) (h3 : ty ≠ tyPos)
    (hsep : Sep lo hi kids (elemRegions R none kids) (fates (alignSlices (cmpRows kids to.kids) kids.length to.kids.length).1 0)) :
    ∀ r ∈ (walk R (.mk ty kSlice isn p e cms nl pl true kids) to).ch, clearOfStretch lo hi r := by
  intro r hr
  have c1 : ¬ (ty != to.ty) = true := by simp [hty]
  have c2 : ¬ (ty == tyObject) = true := by simpa using h1
  have c3 : ¬ (ty == tyCommentGroup) = true := by simpa using h2
  have c4 : ¬ (ty == tyPos) = true := by simpa using h3
  have c5 : ¬ (kSlice == kPtr || kSlice == kIface) = true := by decide
  have c6 : (kSlice == kSlice) = true := by decide
  have c7 : ¬ (!true) = true := by decide
  rw [walk, if_neg c1, if_neg c2, if_neg c3, if_neg c4, if_neg c5, if_pos c6, if_neg c7] at hr
  exact walkFates_clear lo hi kids _ _ to.kids hsep r hr

theorem cgAllB_sound (q : Nat → Bool) (cms : List CG) (h : cgAllB q cms = true) : CGAll (fun p => q p = true) cms := by
  intro cg hcg c hc
  simp only [cgAllB, List.all_eq_true, Bool.and_eq_true] at h
  exact h cg hcg c hc

mutual
theorem allPosB_sound (F : Flow) (a c : Nat → Bool) (ha : ∀ p, a p = true → F.A p) (hc : ∀ p, c p = true → F.C p) :
    ∀ v, allPosB a c v = true → AllPos F v
  | .mk ty _ isn p e cms _ _ en kids, h => by
    simp only [allPosB, Bool.and_eq_true, Bool.or_eq_true, Bool.not_eq_true'] at h
    obtain ⟨⟨⟨⟨h1, h2⟩, h3⟩, h4⟩, h5⟩ := h
    -- each test is `guard is false ∨ test`: where `AllPos` asks, the guard is true
    refine ⟨fun hn => (h1.resolve_left (by simp [hn])).imp (ha _) (ha _), fun ht hp => ha _ (h2.resolve_left (by simp [ht, hp])),
      fun cg hcg x hx => (cgAllB_sound c cms h3 cg hcg x hx).imp (hc _) (hc _), fun hen v hv => ?_,
      allPosLB_sound F a c ha hc kids h5⟩
    have := List.all_eq_true.1 (h4.resolve_left (by simp [hen])) v hv
    simp only [Bool.and_eq_true] at this
    exact this.imp (ha _) (ha _)
theorem allPosLB_sound (F : Flow) (a c : Nat → Bool) (ha : ∀ p, a p = true → F.A p) (hc : ∀ p, c p = true → F.C p) :
    ∀ vs, allPosLB a c vs = true → AllPosL F vs
  | [], _ => trivial
  | v :: vs, h => by
    simp only [allPosLB, Bool.and_eq_true] at h
    exact ⟨allPosB_sound F a c ha hc v h.1, allPosLB_sound F a c ha hc vs h.2⟩
end

theorem oneSideB_sound (lo hi : Nat) (r : Rg) (f : AV) (h : oneSideB lo hi r f = true) : OneSide lo hi r f := by
  simp only [oneSideB, Bool.or_eq_true, Bool.and_eq_true] at h
  -- the tests `leftOfB lo`, `atOrAfterB hi` decide what the two flows ask for
  have left : ∀ p, leftOfB lo p = true → (leftFlow lo).A p := fun p hp => (of_decide_eq_true hp : p ≤ lo)
  have right : ∀ p, atOrAfterB hi p = true → (rightFlow hi).A p := fun p hp => (of_decide_eq_true hp : hi ≤ p)
  rcases h with ⟨⟨h1, h2⟩, h3⟩ | ⟨h1, h3⟩
  · exact .inl ⟨⟨left _ h1, left _ h2⟩, allPosB_sound (leftFlow lo) _ _ left left f h3⟩
  · exact .inr ⟨⟨right _ h1, trivial⟩, allPosB_sound (rightFlow hi) _ _ right (fun _ _ => trivial) f h3⟩

theorem sepB_sound (lo hi : Nat) : ∀ (fs : List AV) (rs : List Rg) (fts : List Fate), sepB lo hi fs rs fts = true → Sep lo hi fs rs fts
  | [], _, _, _ | _ :: _, [], _, _ | _ :: _, _ :: _, [], _ => trivial
  | f :: fs, r :: rs, ft :: fts, h => by
    simp only [sepB, Bool.and_eq_true] at h
    refine ⟨?_, sepB_sound lo hi fs rs fts h.2⟩
    cases ft with
    | same j => trivial
    | modified j | deleted => exact oneSideB_sound lo hi r f h.1

end Gopatch.AD
