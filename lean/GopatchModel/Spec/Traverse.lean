import GopatchModel.FileM
/-
  Spec/Traverse.lean — the data recorded in the sites found below a value are, in order, the
  results of the change's node matcher at the nodes astutil.Apply visits (pre-order), each
  tried with the same incoming data.  Where a site points (parent, field, index) is not
  characterised here.
-/
namespace Gopatch

mutual
/-- the nodes `astutil.Apply` visits below (and including) the slot value `v`, in pre-order -/
def nodesV : V → List V
  | .iface _ x => nodesV x
  | .ptr t id fs => if skipNode t then [] else .ptr t id fs :: nodesL fs
  | .slice _ vs => nodesL vs
  | _ => []
def nodesL : List V → List V
  | [] => []
  | v :: vs => nodesV v ++ nodesL vs
end

mutual
theorem sitesV_data (nm : V → Option Data) : ∀ (v : V) (pid fld : Nat) (idx : Option Nat) (ty : String),
    (sitesV nm pid fld idx ty v).map (·.data) = (nodesV v).filterMap nm
  | .iface _ x, pid, fld, idx, ty => sitesV_data nm x pid fld idx ty
  | .ptr t id fs, pid, fld, idx, ty => by
      rw [sitesV, nodesV]
      split
      · rfl
      · rw [List.map_append, sitesFields_data nm fs id 0, List.filterMap_cons]
        cases nm (.ptr t id fs) <;> rfl
  | .slice _ vs, pid, fld, idx, ty => sitesElems_data nm vs pid fld 0
  | .pos _ _, _, _, _, _ | .str _, _, _, _, _ | .int _, _, _, _, _ | .bool _, _, _, _, _ | .nilP _, _, _, _, _
  | .nilI _, _, _, _, _ | .nilS _, _, _, _, _ => rfl
theorem sitesFields_data (nm : V → Option Data) : ∀ (fs : List V) (id k : Nat),
    (sitesFields nm id k fs).map (·.data) = (nodesL fs).filterMap nm
  | [], _, _ => rfl
  | f :: fs, id, k => by
      rw [sitesFields, nodesL, List.map_append, List.filterMap_append,
        sitesV_data nm f id k none f.tyOf, sitesFields_data nm fs id (k + 1)]
theorem sitesElems_data (nm : V → Option Data) : ∀ (vs : List V) (pid fld i : Nat),
    (sitesElems nm pid fld i vs).map (·.data) = (nodesL vs).filterMap nm
  | [], _, _, _ => rfl
  | v :: vs, pid, fld, i => by
      rw [sitesElems, nodesL, List.map_append, List.filterMap_append,
        sitesV_data nm v pid fld (some i) v.tyOf, sitesElems_data nm vs pid fld (i + 1)]
end

end Gopatch
