import GopatchModel.Finder
/-
  Spec/RewriteSpec.lean — `rewrite` (internal/pgo/augment/rewrite.go) and `posAdjuster.Pos`:
  the place an elision gets in the augmented source is mapped back, by the adjustments that
  `rewrite` itself returns, to the place of its "..." in the version of the patch.

  The loop needs its augmentations in order, one after the other, inside the source, every
  elision three bytes long (`AugsOK`); Spec/FinderSpec proves this of the finder's output, and the
  driver evaluates it on every real version as a cross-check (`augsOKB`, counted in the evidence).
-/
namespace Gopatch.Fnd

theorem len_dts : (strBytes "dts").length = 3 := by decide +kernel
theorem len_named : (strBytes "_ d").length = 3 := by decide +kernel
theorem len_pkg : (strBytes "package _\n").length = 10 := by decide +kernel
theorem len_func : (strBytes "func _() ").length = 9 := by decide +kernel
theorem len_brace : (strBytes "{\n").length = 2 := by decide +kernel

/-- what one iteration needs: the augmentation starts where the source is not consumed yet, lies inside the source, and an
elision covers three bytes -/
def AugOK (src : List UInt8) (pos : Nat) (a : Aug) : Prop :=
  pos ≤ a.start ∧ a.stop ≤ src.length ∧ a.start ≤ a.stop ∧
  match a with
  | .dots s e _ => e = s + 3
  | _ => True

def AugsOK (src : List UInt8) : Nat → List Aug → Prop
  | _, [] => True
  | pos, a :: as => AugOK src pos a ∧ AugsOK src a.stop as

def augOKB (src : List UInt8) (pos : Nat) (a : Aug) : Bool :=
  decide (pos ≤ a.start) && decide (a.stop ≤ src.length) && decide (a.start ≤ a.stop) &&
  match a with
  | .dots s e _ => e == s + 3
  | _ => true

def augsOKB (src : List UInt8) : Nat → List Aug → Bool
  | _, [] => true
  | pos, a :: as => augOKB src pos a && augsOKB src a.stop as

theorem augsOKB_sound (src : List UInt8) : ∀ (as : List Aug) (pos : Nat), augsOKB src pos as = true → AugsOK src pos as
  | [], _, _ => trivial
  | a :: as, pos, h => by
    simp only [augsOKB, augOKB, Bool.and_eq_true, decide_eq_true_eq] at h
    obtain ⟨⟨⟨⟨hpos, hstop⟩, hse⟩, hk⟩, hrest⟩ := h
    refine ⟨⟨hpos, hstop, hse, ?_⟩, augsOKB_sound src as _ hrest⟩
    cases a with
    | dots s e n => exact beq_iff_eq.1 hk
    | _ => trivial

/-- the loop invariant: the output is as long as the consumed source plus what was inserted; every adjustment lies inside
the output; the last one carries the running total -/
structure Inv (st : RwSt) : Prop where
  len : st.dst.length = st.pos + st.reduceBy
  offs : ∀ p ∈ st.adjs, p.1 < st.dst.length
  last : (st.adjs.getLast?.map (·.2)).getD 0 = st.reduceBy

theorem Inv.init : Inv {} := ⟨by simp, by simp, by simp⟩

theorem copied_len (src : List UInt8) (pos start : Nat) (h : start ≤ src.length) :
    ((src.drop pos).take (start - pos)).length = start - pos := by
  rw [List.length_take, List.length_drop]
  exact Nat.min_eq_left (Nat.sub_le_sub_right h pos)

/-- an insertion: `st'` has copied the source up to its new position, put text behind it at output offset `c`, and
recorded the adjustment there -/
theorem Inv.insert {st st' : RwSt} (hi : Inv st) (src : List UInt8) (hpos : st.pos ≤ st'.pos) (hs : st'.pos ≤ src.length)
    {c : Nat} (hc : c = (st.dst ++ (src.drop st.pos).take (st'.pos - st.pos)).length) (hlt : c < st'.dst.length)
    (hrb : st'.reduceBy = st.reduceBy + (st'.dst.length - c)) (hadj : st'.adjs = st.adjs ++ [(c, st'.reduceBy)]) :
    Inv st' ∧ st.dst.length + (st'.pos - st.pos) ≤ st'.dst.length ∧ c = st.dst.length + (st'.pos - st.pos) := by
  rw [List.length_append, copied_len src st.pos st'.pos hs] at hc
  refine ⟨⟨?len, ?offs, ?last⟩, hc ▸ Nat.le_of_lt hlt, hc⟩
  case len =>
    -- the new position plus the old total is `c`; the new total adds what lies behind `c`
    have hc' : st'.pos + st.reduceBy = c := by
      rw [hc, hi.len, Nat.add_right_comm, Nat.add_sub_cancel' hpos]
    rw [hrb, ← Nat.add_assoc, hc', Nat.add_sub_cancel' (Nat.le_of_lt hlt)]
  case offs =>
    rw [hadj]
    simp only [List.forall_mem_append, List.forall_mem_singleton]
    -- an old adjustment lies inside the old output, which ends at or before `c`
    exact ⟨fun p hp => Nat.lt_trans (Nat.lt_of_lt_of_le (hi.offs p hp) (hc ▸ Nat.le_add_right _ _)) hlt, hlt⟩
  case last => simp [hadj]

/-- what one iteration does: it copies the source up to the augmentation and appends the replacing text, so that the output
grows by no less than the source consumed; it records an adjustment - at the place of that text - only for an insertion,
and moves the augmentation to that place -/
theorem rwStep_spec (src : List UInt8) (st : RwSt) (a : Aug) (hi : Inv st) (ha : AugOK src st.pos a) :
    Inv (rwStep src st a) ∧ (rwStep src st a).pos = a.stop ∧
    st.dst.length + (a.stop - st.pos) ≤ (rwStep src st a).dst.length ∧
    (∃ y, (rwStep src st a).adjs = st.adjs ++ y ∧ ∀ p ∈ y, p.1 = st.dst.length + (a.start - st.pos) ∧ a.stop = a.start) ∧
    (∃ a', (rwStep src st a).out = st.out ++ [a'] ∧
      ∀ s e n, a = .dots s e n → ∃ e', a' = .dots (st.dst.length + (s - st.pos)) e' n) := by
  obtain ⟨hpos, hstop, hse, hk⟩ := ha
  cases a with
  | fakePackage s =>
    obtain ⟨hinv, hgrow, hc⟩ := hi.insert (st' := rwStep src st (.fakePackage s)) src hpos hstop rfl
      (by simp only [rwStep, Aug.start, Aug.stop, List.length_append, len_pkg]; omega) rfl rfl
    exact ⟨hinv, rfl, hgrow, ⟨[_], rfl, fun p hp => ⟨List.mem_singleton.1 hp ▸ hc, rfl⟩⟩, ⟨_, rfl, nofun⟩⟩
  | fakeFunc s br =>
    obtain ⟨hinv, hgrow, hc⟩ := hi.insert (st' := rwStep src st (.fakeFunc s br)) src hpos hstop rfl
      (by simp only [rwStep, Aug.start, Aug.stop, List.length_append, len_func]; omega) rfl rfl
    exact ⟨hinv, rfl, hgrow, ⟨[_], rfl, fun p hp => ⟨List.mem_singleton.1 hp ▸ hc, rfl⟩⟩, ⟨_, rfl, nofun⟩⟩
  | dots s e n =>
    simp only [Aug.start, Aug.stop] at hpos hstop hse ⊢
    obtain rfl : e = s + 3 := hk
    have hcl := copied_len src st.pos s (Nat.le_trans hse hstop)
    -- the output: what there was, the source up to `s`, three bytes for the three dots
    have hd : (rwStep src st (.dots s (s + 3) n)).dst.length = st.dst.length + (s - st.pos) + 3 := by
      have hins : (if n then strBytes "_ d" else strBytes "dts").length = 3 := by
        cases n
        · exact len_dts
        · exact len_named
      simp only [rwStep, Aug.start, List.length_append, hcl, hins]
    refine ⟨⟨?len, ?offs, hi.last⟩, rfl, ?grow, ⟨[], by simp [rwStep], nofun⟩, ⟨_, rfl, ?moved⟩⟩
    case grow => rw [hd, Nat.sub_add_comm hpos, Nat.add_assoc]; exact Nat.le_refl _
    case len =>
      -- `pos + reduceBy + (s - pos) + 3 = s + 3 + reduceBy`
      show _ = s + 3 + st.reduceBy
      rw [hd, hi.len, Nat.add_right_comm st.pos, Nat.add_sub_cancel' hpos, Nat.add_right_comm s]
    case offs =>
      intro p hp
      rw [hd]
      exact Nat.lt_of_lt_of_le (hi.offs p hp) (Nat.le_trans (Nat.le_add_right _ _) (Nat.le_add_right _ _))
    case moved =>
      rintro _ _ _ ⟨rfl, rfl, rfl⟩
      exact ⟨_, by simp only [Aug.start, List.length_append, hcl]; rfl⟩

theorem rwStep_inv (src : List UInt8) (st : RwSt) (a : Aug) (hi : Inv st) (ha : AugOK src st.pos a) :
    Inv (rwStep src st a) ∧ (rwStep src st a).pos = a.stop ∧ st.dst.length ≤ (rwStep src st a).dst.length ∧
    (∃ y, (rwStep src st a).adjs = st.adjs ++ y ∧ ∀ p ∈ y, st.dst.length ≤ p.1) ∧
    (∃ a', (rwStep src st a).out = st.out ++ [a']) := by
  obtain ⟨hi1, hp1, hgrow, ⟨y, hy, hyp⟩, ⟨a', ha', _⟩⟩ := rwStep_spec src st a hi ha
  exact ⟨hi1, hp1, Nat.le_trans (Nat.le_add_right _ _) hgrow,
    ⟨y, hy, fun p hp => (hyp p hp).1 ▸ Nat.le_add_right _ _⟩, ⟨a', ha'⟩⟩

theorem fold_inv (src : List UInt8) : ∀ (as : List Aug) (st : RwSt), Inv st → AugsOK src st.pos as →
    Inv (as.foldl (rwStep src) st) ∧
    (∃ y, (as.foldl (rwStep src) st).adjs = st.adjs ++ y ∧ ∀ p ∈ y, st.dst.length ≤ p.1) ∧
    (∃ o, (as.foldl (rwStep src) st).out = st.out ++ o ∧ o.length = as.length)
  | [], st, hi, _ => ⟨hi, ⟨[], by simp, by simp⟩, ⟨[], by simp, rfl⟩⟩
  | a :: as, st, hi, hok => by
    obtain ⟨ha, hrest⟩ := hok
    obtain ⟨hi1, hp1, hlen1, ⟨y1, hy1, hy1p⟩, ⟨a', ha'⟩⟩ := rwStep_inv src st a hi ha
    have ih := fold_inv src as (rwStep src st a) hi1 (by rw [hp1]; exact hrest)
    obtain ⟨hi2, ⟨y2, hy2, hy2p⟩, ⟨o2, ho2, ho2l⟩⟩ := ih
    simp only [List.foldl_cons]
    refine ⟨hi2, ⟨y1 ++ y2, ?_, List.forall_mem_append.2 ⟨hy1p, fun p hp => Nat.le_trans hlen1 (hy2p p hp)⟩⟩,
      ⟨a' :: o2, ?_, by simp [ho2l]⟩⟩
    · rw [hy2, hy1, List.append_assoc]
    · rw [ho2, ha', List.append_assoc]; rfl

/-- `posAdjuster.Pos` at an offset that lies at or after every adjustment of `pre` and before every one of `post` uses
the last adjustment of `pre` -/
theorem adjust_split (pre post : List (Nat × Nat)) (x : Nat) (h1 : ∀ p ∈ pre, p.1 ≤ x) (h2 : ∀ p ∈ post, x < p.1) :
    adjust (pre ++ post) x = x - (pre.getLast?.map (·.2)).getD 0 := by
  unfold adjust
  have e1 : pre.filter (fun a => decide (a.1 ≤ x)) = pre := by
    rw [List.filter_eq_self]; intro p hp; simpa using h1 p hp
  have e2 : post.filter (fun a => decide (a.1 ≤ x)) = [] := by
    rw [List.filter_eq_nil_iff]; intro p hp; simpa using h2 p hp
  rw [List.filter_append, e1, e2, List.append_nil]
  cases pre.getLast? <;> simp

/-- a source offset `k` that the loop has not consumed yet and that lies before the end of the next augmentation is
settled: the output offset `k` gets when it is copied is taken back to `k` by the adjustments of the whole loop, since all
that are still to come lie behind that offset -/
theorem Inv.fold_adjust_eq {st : RwSt} (hi : Inv st) (src : List UInt8) (as : List Aug) (hok : AugsOK src st.pos as)
    (k : Nat) (hk : st.pos ≤ k) (hnext : ∀ a ∈ as.head?, k < a.stop) :
    adjust (as.foldl (rwStep src) st).adjs (st.dst.length + (k - st.pos)) = k := by
  have hy : ∃ y, (as.foldl (rwStep src) st).adjs = st.adjs ++ y ∧ ∀ p ∈ y, st.dst.length + (k - st.pos) < p.1 := by
    cases as with
    | nil => exact ⟨[], by simp, nofun⟩
    | cons a as =>
      obtain ⟨hi1, hp1, hgrow, ⟨y1, hy1, hy1p⟩, _⟩ := rwStep_spec src st a hi hok.1
      obtain ⟨_, ⟨y2, hy2, hy2p⟩, _⟩ := fold_inv src as (rwStep src st a) hi1 (hp1 ▸ hok.2)
      have hlt : st.dst.length + (k - st.pos) < st.dst.length + (a.stop - st.pos) :=
        Nat.add_lt_add_left (Nat.sub_lt_sub_right hk (hnext a rfl)) _
      refine ⟨y1 ++ y2, by rw [List.foldl_cons, hy2, hy1, List.append_assoc], fun p hp => ?_⟩
      rcases List.mem_append.1 hp with hp | hp
      · -- recorded by an insertion, which ends where it starts
        rw [(hy1p p hp).1, ← (hy1p p hp).2]
        exact hlt
      · -- recorded later, behind all the output of this iteration
        exact Nat.lt_of_lt_of_le hlt (Nat.le_trans hgrow (hy2p p hp))
  obtain ⟨y, hy, hyp⟩ := hy
  rw [hy, adjust_split st.adjs y _ (fun p hp => Nat.le_trans (Nat.le_of_lt (hi.offs p hp)) (Nat.le_add_right _ _)) hyp,
    hi.last, hi.len, Nat.add_right_comm, Nat.add_sub_cancel' hk, Nat.add_sub_cancel]

/-- **An elision is recorded where its "..." stands.** For augmentations that come in order, one after the other, inside
the source, every elision three bytes long: whatever fake package clause and function header `rewrite` inserts in front,
the offset that the `i`-th augmentation, an elision, gets in the augmented source is mapped back by `posAdjuster.Pos`,
with the adjustments `rewrite` returned, to the offset of its "..." in the source. -/
theorem elision_maps_back (src : List UInt8) : ∀ (as : List Aug) (st : RwSt), Inv st → AugsOK src st.pos as →
    ∀ (i : Nat) (s e : Nat) (n : Bool), as[i]? = some (.dots s e n) →
    ∃ s' e', (as.foldl (rwStep src) st).out[st.out.length + i]? = some (.dots s' e' n) ∧
      adjust (as.foldl (rwStep src) st).adjs s' = s
  | [], _, _, _, i, s, e, n, h => by simp at h
  | a :: as, st, hi, hok, i, s, e, n, h => by
    obtain ⟨hi1, hp1, _, _, ⟨a', ha', hdots⟩⟩ := rwStep_spec src st a hi hok.1
    have hok1 : AugsOK src (rwStep src st a).pos as := hp1 ▸ hok.2
    cases i with
    | succ j =>
      obtain ⟨s', e', h1, h2⟩ := elision_maps_back src as (rwStep src st a) hi1 hok1 j s e n h
      refine ⟨s', e', ?_, h2⟩
      rwa [ha', List.length_append, List.length_singleton, Nat.add_assoc, Nat.add_comm 1 j] at h1
    | zero =>
      simp only [List.getElem?_cons_zero, Option.some.injEq] at h
      subst h
      obtain ⟨e', rfl⟩ := hdots s e n rfl
      obtain ⟨_, _, ⟨o2, ho2, _⟩⟩ := fold_inv src as _ hi1 hok1
      obtain ⟨hpos, _, _, (he : e = s + 3)⟩ := hok.1
      refine ⟨st.dst.length + (s - st.pos), e', by simp [ho2, ha'], hi.fold_adjust_eq src _ hok s hpos ?_⟩
      rintro _ ⟨⟩
      show s < e
      exact he ▸ Nat.lt_add_of_pos_right (Nat.succ_pos 2)

/-- `elision_maps_back` for `rewrite` itself: from the empty state, on the augmentations sorted by their start -/
theorem rewrite_elision_maps_back (src : List UInt8) (augs : List Aug) (hok : AugsOK src 0 (sortByStart augs))
    (i s e : Nat) (n : Bool) (h : (sortByStart augs)[i]? = some (.dots s e n)) :
    ∃ s' e', (rewrite src augs).2.1[i]? = some (.dots s' e' n) ∧ adjust (rewrite src augs).2.2 s' = s := by
  have := elision_maps_back src (sortByStart augs) {} Inv.init hok i s e n h
  rwa [show ({} : RwSt).out.length + i = i from Nat.zero_add i] at this

theorem rwStep_dst_prefix (src : List UInt8) (st : RwSt) (a : Aug) :
    ∃ x, (rwStep src st a).dst = st.dst ++ (src.drop st.pos).take (a.start - st.pos) ++ x := by
  cases a with
  | fakePackage s => exact ⟨_, rfl⟩
  | fakeFunc s br => exact ⟨_, by simp only [rwStep, List.append_assoc]; rfl⟩
  | dots s e n => exact ⟨_, rfl⟩

theorem fold_dst_prefix (src : List UInt8) : ∀ (as : List Aug) (st : RwSt), ∃ x, (as.foldl (rwStep src) st).dst = st.dst ++ x
  | [], st => ⟨[], by simp⟩
  | a :: as, st => by
    obtain ⟨x1, h1⟩ := rwStep_dst_prefix src st a
    obtain ⟨x2, h2⟩ := fold_dst_prefix src as (rwStep src st a)
    exact ⟨_, by simp only [List.foldl_cons, h2, h1, List.append_assoc]; rfl⟩

/-- the augmented source as `rewrite` returns it -/
def RwSt.whole (src : List UInt8) (st : RwSt) : List UInt8 := st.dst ++ src.drop st.pos ++ st.tail

theorem copied_byte (src out : List UInt8) (pos k stop : Nat) (hk : pos ≤ k) (hks : k < stop) (hs : stop ≤ src.length) (rest : List UInt8) :
    (out ++ (src.drop pos).take (stop - pos) ++ rest)[out.length + (k - pos)]? = src[k]? := by
  have hlt : k - pos < stop - pos := Nat.sub_lt_sub_right hk hks
  rw [List.append_assoc, List.getElem?_append_right (Nat.le_add_right _ _), Nat.add_sub_cancel_left,
    List.getElem?_append_left (by rwa [copied_len src pos stop hs]), List.getElem?_take_of_lt hlt, List.getElem?_drop,
    Nat.add_sub_cancel' hk]

/-- **Every byte `rewrite` keeps maps back to itself.** A byte of the source that the loop, in whatever state, has not
passed and that lies in no augmentation to come is found in the augmented source (`whole` of the last state) at an offset
which `posAdjuster.Pos`, with the adjustments of that state, takes back to the byte's own offset: whatever go/parser
reports about retained code is reported at the place of that code in the version. -/
theorem retained_byte_maps_back (src : List UInt8) : ∀ (as : List Aug) (st : RwSt), Inv st → AugsOK src st.pos as →
    ∀ k, st.pos ≤ k → k < src.length → (∀ a ∈ as, ¬ (a.start ≤ k ∧ k < a.stop)) →
    ∃ o, ((as.foldl (rwStep src) st).whole src)[o]? = src[k]? ∧ adjust (as.foldl (rwStep src) st).adjs o = k
  | [], st, hi, hok, k, hk, hlen, _ => by
    refine ⟨st.dst.length + (k - st.pos), ?_, hi.fold_adjust_eq src [] hok k hk nofun⟩
    have := copied_byte src st.dst st.pos k src.length hk hlen (Nat.le_refl _) st.tail
    rwa [List.take_of_length_le (by simp)] at this
  | a :: as, st, hi, hok, k, hk, hlen, hout => by
    obtain ⟨hpos, hstop, hse, _⟩ := hok.1
    by_cases hlt : k < a.start
    · -- copied in this iteration
      obtain ⟨x1, hx1⟩ := rwStep_dst_prefix src st a
      obtain ⟨x2, hx2⟩ := fold_dst_prefix src as (rwStep src st a)
      refine ⟨st.dst.length + (k - st.pos), ?_, hi.fold_adjust_eq src _ hok k hk ?_⟩
      · simp only [List.foldl_cons, RwSt.whole, hx2, hx1, List.append_assoc]
        simpa only [List.append_assoc] using copied_byte src st.dst st.pos k a.start hk hlt (Nat.le_trans hse hstop) _
      · rintro _ ⟨⟩
        exact Nat.lt_of_lt_of_le hlt hse
    · -- at or after the end of this augmentation: left to the rest of the loop
      obtain ⟨hi1, hp1, _⟩ := rwStep_spec src st a hi hok.1
      rw [List.forall_mem_cons] at hout
      have hge : a.stop ≤ k := Nat.le_of_not_lt fun h => hout.1 ⟨Nat.le_of_not_lt hlt, h⟩
      exact retained_byte_maps_back src as (rwStep src st a) hi1 (hp1 ▸ hok.2) k (hp1 ▸ hge) hlen hout.2

end Gopatch.Fnd
