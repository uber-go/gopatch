import GopatchModel.Spec.RewriteSpec
/-
  Spec/FinderSpec.lean — what `find` (internal/pgo/augment/find.go) hands to `rewrite`.

  `Spec/RewriteSpec` proves that `rewrite` and `posAdjuster.Pos` put every elision back where its
  "..." stands *provided* the augmentations, sorted by their start, follow one another inside the
  source and every elision is three bytes long (`AugsOK`).  Here that proviso is discharged for the
  finder itself: on every token stream that ends with its only EOF token (`WF`), whose tokens come
  in source order, an ELLIPSIS token covering three bytes (`Laid`), and lie inside the source, the
  list `find` returns satisfies `AugsOK` once sorted (`find_augs_ok`), and every elision in it
  stands on an ELLIPSIS token of the stream (`find_dots_on_ellipsis`).  What is left as a
  hypothesis is a statement about go/scanner's output only (`scanOKB`, of which `laidB` is a part, is
  what the driver evaluates on the tokens of every real version).
-/
namespace Gopatch.Fnd

def Tok.width (t : Tok) : Nat := if t.kind = .ellipsis then 3 else 0

/-- tokens in source order; an ELLIPSIS token covers three bytes -/
def Laid : List Tok → Prop
  | [] => True
  | [_] => True
  | t :: t' :: rest => t.off + t.width ≤ t'.off ∧ Laid (t' :: rest)

def laidB : List Tok → Bool
  | [] => true
  | [_] => true
  | t :: t' :: rest => decide (t.off + t.width ≤ t'.off) && laidB (t' :: rest)

theorem laidB_sound : ∀ l, laidB l = true → Laid l
  | [], _ => trivial
  | [_], _ => trivial
  | t :: t' :: rest, h => by
      simp only [laidB, Bool.and_eq_true, decide_eq_true_eq] at h
      exact ⟨h.1, laidB_sound _ h.2⟩

/-- what `Props/C04.ScanOK` asks of go/scanner's tokens for one version, as a test the driver runs -/
def scanOKB (src : List UInt8) (toks : List Tok) : Bool :=
  wfB toks && laidB toks && toks.all (fun t => decide (t.off ≤ src.length) &&
    (t.kind != .ellipsis || (src[t.off]? == some 46 && src[t.off + 1]? == some 46 && src[t.off + 2]? == some 46)))

theorem laid_nextToks (l : List Tok) (h : Laid l) : Laid (nextToks l) := by
  fun_cases nextToks l with
  | case1 => exact h -- on EOF: no move
  | case2 => exact h.2 -- a step
  | case3 => exact h -- one token or none

theorem mem_nextToks (l : List Tok) (t : Tok) : t ∈ nextToks l → t ∈ l := by
  fun_cases nextToks l with
  | case1 => exact id -- on EOF: no move
  | case2 => exact List.mem_cons_of_mem _ -- a step
  | case3 => exact id -- one token or none

theorem cur_mem (s : St) (h : WF s.toks) : s.cur ∈ s.toks :=
  match s, h with
  | ⟨_ :: _, _⟩, _ => List.mem_cons_self ..

theorem cur_next_le (s : St) (h : WF s.toks) (hl : Laid s.toks) : s.cur.off + s.cur.width ≤ s.next.cur.off :=
  match s, h, hl with
  | ⟨[a], _⟩, h, _ => by simp [St.next, St.cur, nextToks, Tok.width, show a.kind = .eof from h]
  | ⟨a :: b :: rest, _⟩, h, hl => by
    simp only [St.next, St.cur, nextToks_cons h.1]
    exact hl.1

def Spaced (a b : Nat) : Prop := a + 3 ≤ b ∨ b + 3 ≤ a

theorem Spaced.symm {a b : Nat} (h : Spaced a b) : Spaced b a := Or.symm h

def dotsOf (D : List (Nat × Bool)) : List Aug := D.map (fun p => Aug.dots p.1 (p.1 + 3) p.2)

/-- `o` is the offset of an ELLIPSIS token of the stream `T` -/
def OnEll (T : List Tok) (o : Nat) : Prop := ∃ t ∈ T, t.kind = .ellipsis ∧ t.off = o

/-- offsets of elisions seen so far: pairwise apart, not before `lo`, ending at or before `c`, each on an ELLIPSIS token
(the last two clauses of `G.ex` below, written out there, are `Seen T lo s.cur.off (D.map (·.1) ++ pend)`) -/
def Seen (T : List Tok) (lo c : Nat) (os : List Nat) : Prop :=
  os.Pairwise Spaced ∧ ∀ o ∈ os, lo ≤ o ∧ o + 3 ≤ c ∧ OnEll T o

theorem Seen.nil {T lo c} : Seen T lo c [] := ⟨.nil, nofun⟩

theorem Seen.mono {T lo c c' os} (h : Seen T lo c os) (hc : c ≤ c') : Seen T lo c' os :=
  ⟨h.1, fun o ho => let ⟨hlo, hend, hon⟩ := h.2 o ho; ⟨hlo, Nat.le_trans hend hc, hon⟩⟩

theorem Seen.perm {T lo c os os'} (h : Seen T lo c os) (hp : os.Perm os') : Seen T lo c os' :=
  ⟨h.1.perm hp Spaced.symm, fun o ho => h.2 o (hp.mem_iff.2 ho)⟩

/-- one more elision, at `c` itself, where all the others have ended -/
theorem Seen.snoc {T lo c c' os} (h : Seen T lo c os) (hlo : lo ≤ c) (hon : OnEll T c) (hc : c + 3 ≤ c') :
    Seen T lo c' (os ++ [c]) := by
  refine ⟨List.pairwise_append.2 ⟨h.1, List.pairwise_singleton _ _, fun a ha b hb => ?_⟩,
    List.forall_mem_append.2 ⟨(h.mono (Nat.le_trans (Nat.le_add_right c 3) hc)).2, List.forall_mem_singleton.2 ⟨hlo, hc, hon⟩⟩⟩
  rw [List.mem_singleton.1 hb]
  exact Or.inl (h.2 a ha).2.1

/-- the state of the scan: the augmentations are the fixed list `F` followed by elisions `D`; the elisions recorded so far
and the ones a parameter list still holds back (`pend`) are pairwise apart, not before `lo`, end at or before the
current token and stand on ELLIPSIS tokens of the stream -/
structure G (T : List Tok) (lo : Nat) (F : List Aug) (pend : List Nat) (s : St) : Prop where
  wf : WF s.toks
  laid : Laid s.toks
  sub : ∀ t ∈ s.toks, t ∈ T
  lo_le : lo ≤ s.cur.off
  ex : ∃ D : List (Nat × Bool), s.augs = F ++ dotsOf D ∧
        (D.map (·.1) ++ pend).Pairwise Spaced ∧
        ∀ o ∈ D.map (·.1) ++ pend, lo ≤ o ∧ o + 3 ≤ s.cur.off ∧ OnEll T o

theorem G.next {T lo F pend s} (g : G T lo F pend s) : G T lo F pend s.next := by
  obtain ⟨wf, laid, sub, lo_le, D, hD, hs⟩ := g
  have hm : s.cur.off ≤ s.next.cur.off := Nat.le_trans (Nat.le_add_right _ _) (cur_next_le s wf laid)
  exact ⟨wf_next s wf, laid_nextToks _ laid, fun t ht => sub t (mem_nextToks _ _ ht), Nat.le_trans lo_le hm,
    D, hD, Seen.mono hs hm⟩

/-- an ELLIPSIS token inside a parameter list: held back until the list ends (`finder.fieldList`) -/
theorem G.hold {T lo F pend s} (g : G T lo F pend s) (hk : s.kind = .ellipsis) :
    G T lo F (pend ++ [s.cur.off]) s.next := by
  obtain ⟨D, hD, hs⟩ := g.ex
  have hn := cur_next_le s g.wf g.laid
  rw [show s.cur.width = 3 from if_pos hk] at hn
  refine ⟨g.next.wf, g.next.laid, g.next.sub, g.next.lo_le, D, hD, ?_⟩
  rw [← List.append_assoc]
  exact Seen.snoc hs g.lo_le ⟨s.cur, g.sub _ (cur_mem s g.wf), hk, rfl⟩ hn

/-- the end of a parameter list: what was held back is recorded -/
theorem G.flush {T lo F pend s} (ell : List Nat) (g : G T lo F (pend ++ ell) s) (nm : Bool) :
    G T lo F pend { s with augs := s.augs ++ ell.map (fun off => Aug.dots off (off + 3) nm) } := by
  obtain ⟨wf, laid, sub, lo_le, D, hD, hs⟩ := g
  refine ⟨wf, laid, sub, lo_le, D ++ ell.map (fun o => (o, nm)), ?_, Seen.perm hs ?_⟩
  · show s.augs ++ _ = _
    rw [hD]; simp [dotsOf, List.map_map, Function.comp_def]
  · simp only [List.map_append, List.map_map, List.append_assoc, Function.comp_def, List.map_id']
    exact List.Perm.append_left _ List.perm_append_comm

/-- the scan moved on without recording anything -/
inductive Adv : St → St → Prop
  | refl (s : St) : Adv s s
  | tail {s s' : St} : Adv s s' → Adv s s'.next

theorem Adv.step (s : St) : Adv s s.next := .tail (.refl s)

theorem Adv.trans {a b c : St} (h1 : Adv a b) (h2 : Adv b c) : Adv a c := by
  induction h2 with
  | refl => exact h1
  | tail _ ih => exact .tail ih

theorem Adv.augs {a b : St} (h : Adv a b) : b.augs = a.augs := by
  induction h with
  | refl => rfl
  | tail _ ih => exact ih

theorem G.adv {T lo F pend a b} (g : G T lo F pend a) (h : Adv a b) : G T lo F pend b := by
  induction h with
  | refl => exact g
  | tail _ ih => exact ih.next

theorem ident_adv (s : St) : Adv s (ident s).st := by
  fun_cases ident s with
  | case1 => exact (Adv.step s).trans (Adv.step _) -- a spread `foo...`
  | case2 => exact Adv.step s

theorem ellipsis_G {T lo F pend s} (g : G T lo F pend s) (hk : s.kind = .ellipsis) : G T lo F pend (ellipsis s).st := by
  fun_cases ellipsis s with
  | case1 => exact g.next.next -- `...` in front of an identifier on its line: no elision
  | case2 => -- an elision: recorded at once, as if held back and flushed on the spot
    exact G.flush [s.cur.off] (g.hold hk) false

theorem fieldLoop_G {T : List Tok} {lo : Nat} {F : List Aug} (N : Nat)
    (ihBody : ∀ s h pend, s.toks.length < N → G T lo F pend s → G T lo F pend (functionBody s h).st)
    (ihLoop : ∀ s h ell named pend, s.toks.length < N → G T lo F (pend ++ ell) s →
      G T lo F pend (fieldLoop s h ell named).st)
    (s : St) (h : WF s.toks) (ell : List Nat) (named : Bool) (pend : List Nat) (hN : s.toks.length = N)
    (g : G T lo F (pend ++ ell) s) : G T lo F pend (fieldLoop s h ell named).st := by
  subst hN
  fun_cases fieldLoop s h ell named with
  | case1 => exact G.flush ell g.next named -- the list ends
  | case2 _ _ hlt _ _ hlt2 => -- a function type among the parameters
    exact ihLoop _ _ ell named pend hlt2 (ihBody s.next (wf_next s h) _ hlt g.next)
  | case3 _ _ _ _ _ _ r2 hlt2 => -- IDENT, perhaps qualified
    refine ihLoop _ _ ell _ pend hlt2 ?_
    unfold r2
    split
    · exact g.next.next.next
    · exact g.next
  | case4 _ _ hlt _ _ _ _ _ => -- `...` in front of an identifier: a variadic parameter, no elision
    exact ihLoop _ _ ell named pend hlt g.next
  | case5 _ _ hlt _ _ hk _ _ => -- any other `...`: an elision, held back
    have := g.hold hk
    rw [List.append_assoc] at this
    exact ihLoop _ _ (ell ++ [s.cur.off]) named pend hlt this
  | case6 _ _ hlt _ _ _ => exact ihLoop _ _ ell named pend hlt g.next -- any other token

theorem mutual_G {T : List Tok} {lo : Nat} {F : List Aug} : ∀ N : Nat,
    (∀ s h ell named pend, s.toks.length = N → G T lo F (pend ++ ell) s → G T lo F pend (fieldLoop s h ell named).st) ∧
    (∀ s h pend, s.toks.length = N → G T lo F pend s → G T lo F pend (fieldList s h).st) ∧
    (∀ s h pend, s.toks.length = N → G T lo F pend s → G T lo F pend (functionBody s h).st) := by
  intro N
  induction N using Nat.strongRecOn with
  | _ N ih =>
    have hLoop : ∀ s h ell named pend, s.toks.length ≤ N → G T lo F (pend ++ ell) s →
        G T lo F pend (fieldLoop s h ell named).st := fun s h ell named pend hle g =>
      -- the loop calls itself and `functionBody` on strictly shorter streams only
      fieldLoop_G s.toks.length (fun s' h' pend' hl g' => (ih _ (Nat.lt_of_lt_of_le hl hle)).2.2 s' h' pend' rfl g')
        (fun s' h' ell' named' pend' hl g' => (ih _ (Nat.lt_of_lt_of_le hl hle)).1 s' h' ell' named' pend' rfl g')
        s h ell named pend rfl g
    have hList : ∀ s h pend, s.toks.length ≤ N → G T lo F pend s → G T lo F pend (fieldList s h).st := by
      intro s h pend hle g
      rw [fieldList, Res.trans_st]
      refine hLoop _ _ [] false pend (Nat.le_trans (next_le s) hle) ?_
      rw [List.append_nil]
      exact g.next
    refine ⟨fun s h ell named pend he g => hLoop s h ell named pend (Nat.le_of_eq he) g,
      fun s h pend he g => hList s h pend (Nat.le_of_eq he) g, ?_⟩
    intro s h pend he g
    have g1 := hList s h pend (Nat.le_of_eq he) g
    fun_cases functionBody s h with
    | case1 r1 => exact hList _ _ pend (he ▸ r1.le) g1 -- a second list: the results
    | case2 => exact g1

theorem functionBody_G {T lo F pend s} (h : WF s.toks) (g : G T lo F pend s) : G T lo F pend (functionBody s h).st :=
  (mutual_G (T := T) (lo := lo) (F := F) s.toks.length).2.2 s h pend rfl g

theorem process_G {T lo F pend s} (h : WF s.toks) (g : G T lo F pend s) : G T lo F pend (process s h).st := by
  fun_cases process s h with
  | case1 => exact g.adv (ident_adv s)
  | case2 _ hk => exact ellipsis_G g hk
  | case3 => exact functionBody_G (s := s.next) _ g.next -- `func`
  | case4 => exact g.next -- any other token

theorem recvLoop_G {T lo F pend} : ∀ (N : Nat) (s : St) (h : WF s.toks), s.toks.length = N → G T lo F pend s →
    G T lo F pend (recvLoop s h).st := by
  rintro _ s h - g
  fun_induction recvLoop s h with
  | case1 => exact g
  | case2 s h _ _ _ _ ih => exact ih (process_G h g)

theorem findLoop_G {T lo F pend} : ∀ (N : Nat) (s : St) (h : WF s.toks), s.toks.length = N → G T lo F pend s →
    G T lo F pend (findLoop s h).st := by
  rintro _ s h - g
  fun_induction findLoop s h with
  | case1 => exact g
  | case2 s h _ _ _ ih => exact ih (process_G h g)

theorem funcDecl_G {T lo F pend s} (h : WF s.toks) (g : G T lo F pend s) : G T lo F pend (funcDecl s h).st := by
  simp only [funcDecl, Res.trans_st]
  refine functionBody_G _ (G.next ?_)
  split
  · exact (recvLoop_G _ _ _ rfl g.next.next).next -- a receiver: `(`, its tokens, `)`
  · exact g.next

theorem skipGroup_adv (s : St) (h : WF s.toks) : Adv s (skipGroup s h).st := by
  fun_induction skipGroup s h with
  | case1 s => exact .refl s
  | case2 s _ _ _ _ ih => exact (Adv.step s).trans ih

theorem imports_adv : ∀ (N : Nat) (s : St) (h : WF s.toks), s.toks.length = N → Adv s (imports s h).st := by
  rintro _ s h -
  fun_induction imports s h with
  | case1 s _ _ _ _ _ _ _ _ _ _ ih => -- `import (`: the group, `)`, `;`
    exact (((Adv.step s).trans (skipGroup_adv _ _)).tail.tail).trans ih
  | case2 s => exact Adv.step s -- `import` at the end of the stream
  | case3 s _ _ _ _ _ _ _ a _ _ _ ih => -- `import`, perhaps a name or `.`, the path, `;`
    have hA : Adv s.next a.st := by
      unfold a
      split
      · exact Adv.step _
      · exact .refl _
    exact (((Adv.step s).trans hA).tail.tail).trans ih
  | case4 s => exact .refl s -- no `import`

def Aug.isFake : Aug → Prop
  | .dots _ _ _ => False
  | _ => True

/-- the augmentations that are not elisions: in order, none after `lo` -/
def FakesOK (F : List Aug) (lo : Nat) : Prop :=
  F.Pairwise (fun a b => a.start ≤ b.start) ∧ ∀ f ∈ F, f.isFake ∧ f.start ≤ lo

/-- a fake clause put in front of the current token, before any elision is recorded -/
theorem G.fake {T lo F s} (g : G T lo F [] s) (ha : s.augs = F) (hF : FakesOK F lo) (f : Aug) (hf : f.isFake)
    (hs : f.start = s.cur.off) :
    FakesOK (F ++ [f]) s.cur.off ∧ G T s.cur.off (F ++ [f]) [] { s with augs := s.augs ++ [f] } := by
  refine ⟨⟨List.pairwise_append.2 ⟨hF.1, List.pairwise_singleton _ _, fun a ha' b hb => ?_⟩,
      List.forall_mem_append.2 ⟨fun a h => ⟨(hF.2 a h).1, Nat.le_trans (hF.2 a h).2 g.lo_le⟩,
        List.forall_mem_singleton.2 ⟨hf, Nat.le_of_eq hs⟩⟩⟩,
    g.wf, g.laid, g.sub, Nat.le_refl _, [], by simp [dotsOf, ha], Seen.nil⟩
  rw [List.mem_singleton.1 hb, hs]
  exact Nat.le_trans (hF.2 a ha').2 g.lo_le

theorem pkg_shape (s0 : St) (wf : WF s0.toks) (laid : Laid s0.toks) (ha : s0.augs = []) :
    ∃ F1, FakesOK F1 s0.cur.off ∧ G s0.toks s0.cur.off F1 [] (pkg s0).st ∧ (pkg s0).st.augs = F1 := by
  have g0 : G s0.toks s0.cur.off [] [] s0 :=
    ⟨wf, laid, fun t ht => ht, Nat.le_refl _, [], by simp [dotsOf, ha], Seen.nil⟩
  have hF0 : FakesOK [] s0.cur.off := ⟨List.Pairwise.nil, nofun⟩
  fun_cases pkg s0 with
  | case1 => -- no package clause: a fake one
    have := g0.fake ha hF0 (.fakePackage s0.cur.off) trivial rfl
    exact ⟨_, this.1, this.2, by show s0.augs ++ _ = _; rw [ha]⟩
  | case2 => exact ⟨[], hF0, g0.next.next.next, ha⟩ -- `package`, the name, `;`

theorem topLevelDecl_shape {T : List Tok} {lo : Nat} {F1 : List Aug} (s : St) (h : WF s.toks) (g : G T lo F1 [] s)
    (ha : s.augs = F1) (hF : FakesOK F1 lo) :
    ∃ F2 lo2, FakesOK F2 lo2 ∧ G T lo2 F2 [] (topLevelDecl s h).st := by
  fun_cases topLevelDecl s h with
  | case1 => exact ⟨F1, lo, hF, g.next⟩ -- `type`, `const`, `var`
  | case2 => exact ⟨F1, lo, hF, funcDecl_G h g⟩ -- `func`
  | case3 => -- `{`: a fake function header in front of it
    have := g.fake ha hF (.fakeFunc s.cur.off false) trivial rfl
    exact ⟨_, _, this.1, this.2.next⟩
  | case4 => -- statements or an expression: a fake function header and its brace
    have := g.fake ha hF (.fakeFunc s.cur.off true) trivial rfl
    exact ⟨_, _, this.1, this.2⟩

/-- what `find` returns: the fake package clause and the fake function, if any, in this order, then elisions; the
elisions stand on ELLIPSIS tokens of the stream, pairwise apart, none before the fakes -/
theorem find_shape (toks : List Tok) (h : WF toks) (hl : Laid toks) (n : Nat) (hb : ∀ t ∈ toks, t.off ≤ n) :
    ∃ F lo D, find toks h = F ++ dotsOf D ∧ FakesOK F lo ∧ lo ≤ n ∧ (D.map (·.1)).Pairwise Spaced ∧
      ∀ o ∈ D.map (·.1), lo ≤ o ∧ o + 3 ≤ n ∧ OnEll toks o := by
  obtain ⟨F1, hF1, g1, ha1⟩ := pkg_shape { toks := toks, augs := [] } h hl rfl
  have adv2 := imports_adv _ _ g1.wf rfl
  have g2 := g1.adv adv2
  obtain ⟨F2, lo2, hF2, g3⟩ := topLevelDecl_shape _ g2.wf g2 (adv2.augs.trans ha1) hF1
  have g4 := findLoop_G _ _ g3.wf rfl g3
  obtain ⟨D, hD, hs⟩ := g4.ex
  rw [List.append_nil] at hs
  have hcur := hb _ (g4.sub _ (cur_mem _ g4.wf))
  exact ⟨F2, lo2, D, hD, hF2, Nat.le_trans g4.lo_le hcur, Seen.mono hs hcur⟩

theorem sortByStart_cons (a : Aug) (l : List Aug) : sortByStart (a :: l) = insertByStart a (sortByStart l) := rfl

theorem insertByStart_perm (a : Aug) (l : List Aug) : (insertByStart a l).Perm (a :: l) := by
  fun_induction insertByStart a l with
  | case1 => exact .refl _
  | case2 => exact .refl _ -- `a` goes in front
  | case3 c cs _ ih => exact (ih.cons c).trans (.swap a c cs) -- `a` goes behind `c`

theorem sortByStart_perm : ∀ l, (sortByStart l).Perm l
  | [] => List.Perm.refl _
  | a :: l => by
      rw [sortByStart_cons]
      exact (insertByStart_perm a _).trans ((sortByStart_perm l).cons a)

theorem insertByStart_sorted (a : Aug) (l : List Aug) (h : l.Pairwise (fun x y => x.start ≤ y.start)) :
    (insertByStart a l).Pairwise (fun x y => x.start ≤ y.start) := by
  fun_induction insertByStart a l with
  | case1 => exact List.pairwise_singleton _ _
  | case2 _ _ hac => -- `a` goes in front
    refine List.pairwise_cons.2 ⟨List.forall_mem_cons.2 ⟨hac, fun x hx => ?_⟩, h⟩
    exact Nat.le_trans hac ((List.pairwise_cons.1 h).1 x hx)
  | case3 c cs hac ih => -- `a` goes behind `c`
    rw [List.pairwise_cons] at h
    refine List.pairwise_cons.2 ⟨fun x hx => ?_, ih h.2⟩
    rcases List.mem_cons.1 ((insertByStart_perm a cs).mem_iff.1 hx) with rfl | hx
    · exact Nat.le_of_not_le hac
    · exact h.1 x hx

theorem sortByStart_sorted : ∀ l, (sortByStart l).Pairwise (fun x y => x.start ≤ y.start)
  | [] => .nil
  | a :: l => insertByStart_sorted a _ (sortByStart_sorted l)

theorem insertByStart_min (f : Aug) : ∀ (L : List Aug), (∀ c ∈ L, f.start ≤ c.start) → insertByStart f L = f :: L
  | [], _ => rfl
  | c :: cs, h => by simp [insertByStart, h c (List.mem_cons_self ..)]

/-- the sort is stable where it matters: what already stands in front, in order and not after the rest, stays in front -/
theorem sortByStart_append_min : ∀ (F X : List Aug), F.Pairwise (fun a b => a.start ≤ b.start) →
    (∀ f ∈ F, ∀ x ∈ X, f.start ≤ x.start) → sortByStart (F ++ X) = F ++ sortByStart X
  | [], X, _, _ => rfl
  | f :: F, X, hF, hFX => by
      rw [List.pairwise_cons] at hF
      rw [List.forall_mem_cons] at hFX
      rw [List.cons_append, sortByStart_cons, sortByStart_append_min F X hF.2 hFX.2, insertByStart_min, List.cons_append]
      intro c hc
      exact (List.mem_append.1 hc).elim (hF.1 c) (fun hm => hFX.1 c ((sortByStart_perm X).mem_iff.1 hm))

/-- augmentations that lie inside the source, from `pos` on, each ending before the next begins -/
theorem augsOK_of_pairwise (src : List UInt8) : ∀ (l : List Aug) (pos : Nat),
    (∀ a ∈ l, AugOK src pos a) → l.Pairwise (fun a b => a.stop ≤ b.start) → AugsOK src pos l
  | [], _, _, _ => trivial
  | a :: l, pos, h, hp => by
      rw [List.pairwise_cons] at hp
      rw [List.forall_mem_cons] at h
      exact ⟨h.1, augsOK_of_pairwise src l a.stop (fun b hb => ⟨hp.1 b hb, (h.2 b hb).2⟩) hp.2⟩

/-- **the finder's output meets the hypothesis of the rewriter**: on a token stream that ends with its only EOF token, in
source order with three-byte ELLIPSIS tokens, inside a source of `src.length` bytes, the augmentations `find` returns,
sorted as `rewrite` sorts them, follow one another inside the source and every elision is three bytes long -/
theorem find_augs_ok (src : List UInt8) (toks : List Tok) (h : WF toks) (hl : Laid toks)
    (hb : ∀ t ∈ toks, t.off ≤ src.length) : AugsOK src 0 (sortByStart (find toks h)) := by
  obtain ⟨F, lo, D, hfind, hF, hlo, hp, hD⟩ := find_shape toks h hl src.length hb
  -- a fake ends where it starts, at or before `lo`; an elision of `D` starts at or after `lo` and ends inside the source
  have hfake : ∀ f ∈ F, f.stop = f.start ∧ f.start ≤ lo ∧ AugOK src 0 f := by
    intro f hf
    obtain ⟨hk, hle⟩ := hF.2 f hf
    cases f with
    | dots => exact hk.elim
    | _ => exact ⟨rfl, hle, Nat.zero_le _, Nat.le_trans hle hlo, Nat.le_refl _, trivial⟩
  have hdots : ∀ x ∈ sortByStart (dotsOf D), lo ≤ x.start ∧ x.stop = x.start + 3 ∧ AugOK src 0 x := by
    intro x hx
    obtain ⟨p, hp', rfl⟩ := List.mem_map.1 ((sortByStart_perm _).mem_iff.1 hx)
    have := hD p.1 (List.mem_map_of_mem hp')
    exact ⟨this.1, rfl, Nat.zero_le _, this.2.1, Nat.le_add_right _ _, rfl⟩
  rw [hfind, sortByStart_append_min F (dotsOf D) hF.1
    (fun f hf x hx => Nat.le_trans (hfake f hf).2.1 (hdots x ((sortByStart_perm _).mem_iff.2 hx)).1)]
  refine augsOK_of_pairwise src _ 0 (List.forall_mem_append.2 ⟨fun a h => (hfake a h).2.2, fun a h => (hdots a h).2.2⟩)
    (List.pairwise_append.2 ⟨?_, ?_, fun f hf x hx => ?_⟩)
  · exact hF.1.imp_of_mem (fun ha _ hab => (hfake _ ha).1 ▸ hab)
  · -- in order and three bytes apart: each elision ends before the next begins
    have hsp : (sortByStart (dotsOf D)).Pairwise (fun a b => Spaced a.start b.start) := by
      refine List.Pairwise.perm ?_ (sortByStart_perm (dotsOf D)).symm Spaced.symm
      simpa [dotsOf, List.pairwise_map, Aug.start] using hp
    refine ((sortByStart_sorted (dotsOf D)).and hsp).imp_of_mem (fun {a b} ha _ hab => ?_)
    rw [(hdots a ha).2.1]
    rcases hab.2 with h | h
    · exact h
    · have := hab.1; omega
  · rw [(hfake f hf).1]
    exact Nat.le_trans (hfake f hf).2.1 (hdots x hx).1

/-- every elision `find` returns stands on an ELLIPSIS token of the stream and is three bytes long -/
theorem find_dots_on_ellipsis (toks : List Tok) (h : WF toks) (hl : Laid toks) (s e : Nat) (nm : Bool)
    (hm : Aug.dots s e nm ∈ find toks h) : e = s + 3 ∧ OnEll toks s := by
  obtain ⟨F, lo, D, hfind, hF, _, _, hD⟩ := find_shape toks h hl ((toks.map (·.off)).max?.getD 0)
    (fun _ ht => List.le_max?_getD_of_mem (List.mem_map_of_mem ht))
  rw [hfind] at hm
  rcases List.mem_append.1 hm with hm | hm
  · exact (hF.2 _ hm).1.elim
  · obtain ⟨p, hp', heq⟩ := List.mem_map.1 hm
    cases heq
    exact ⟨rfl, (hD p.1 (List.mem_map_of_mem hp')).2.2⟩

end Gopatch.Fnd
