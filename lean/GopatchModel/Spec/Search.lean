import GopatchModel.Engine
/-
  Spec/Search.lean — the two list functions under the elision search: `firstSome` is core's `List.findSome?`
  (whose lemmas then apply), and `splits l` lists every way to cut `l` in two, shortest prefix first.
-/
namespace Gopatch

theorem firstSome_eq_findSome? {α β} (f : α → Option β) : ∀ l : List α, firstSome l f = l.findSome? f
  | [] => rfl
  | a :: as => by
      unfold firstSome
      rw [List.findSome?_cons]
      cases f a with
      | some b => rfl
      | none => exact firstSome_eq_findSome? f as

theorem mem_splits {α} : ∀ {l a b : List α}, (a, b) ∈ splits l ↔ a ++ b = l
  | [], a, b => by simp [splits]
  | x :: xs, a, b => by
      simp only [splits, List.mem_cons, List.mem_map, Prod.mk.injEq, Prod.exists, mem_splits (l := xs)]
      constructor
      · rintro (⟨rfl, rfl⟩ | ⟨a', b', rfl, rfl, rfl⟩) <;> rfl
      · intro h
        cases a with
        | nil => exact .inl ⟨rfl, h⟩
        | cons y a' =>
          cases h
          exact .inr ⟨a', b, rfl, rfl, rfl⟩

theorem splits_pairwise {α} : ∀ l : List α, (splits l).Pairwise (fun x y => x.1.length < y.1.length)
  | [] => by simp [splits]
  | x :: xs => by
      simp only [splits, List.pairwise_cons, List.mem_map, List.pairwise_map]
      refine ⟨?_, (splits_pairwise xs).imp (by simp)⟩
      rintro _ ⟨p, _, rfl⟩
      simp

theorem firstSome_splits {α β} {f : List α × List α → Option β} {l : List α} {b : β}
    (h : firstSome (splits l) f = some b) :
    ∃ a r, a ++ r = l ∧ f (a, r) = some b ∧ ∀ a' r', a' ++ r' = l → a'.length < a.length → f (a', r') = none := by
  rw [firstSome_eq_findSome?] at h
  obtain ⟨l₁, x, l₂, hl, hx, hn⟩ := List.findSome?_eq_some_iff.1 h
  have hmem : x ∈ splits l := by rw [hl]; simp
  refine ⟨x.1, x.2, mem_splits.1 hmem, hx, fun a' r' hcat hlen => ?_⟩
  have hm : (a', r') ∈ l₁ ++ x :: l₂ := hl ▸ mem_splits.2 hcat
  obtain ⟨-, hp, -⟩ := List.pairwise_append.1 (hl ▸ splits_pairwise l)
  rcases List.mem_append.1 hm with h₁ | h₂
  · exact hn _ h₁
  · rcases List.mem_cons.1 h₂ with rfl | h₃
    · exact absurd hlen (Nat.lt_irrefl _)
    · exact absurd (List.rel_of_pairwise_cons hp h₃) (Nat.lt_asymm hlen)

theorem firstSome_splits_isSome {α β} {f : List α × List α → Option β} {a r : List α} {b : β}
    (h : f (a, r) = some b) : ∃ b', firstSome (splits (a ++ r)) f = some b' := by
  rw [firstSome_eq_findSome?, ← Option.isSome_iff_exists, List.findSome?_isSome_iff]
  exact ⟨(a, r), mem_splits.2 rfl, by simp [h]⟩

end Gopatch
