import GopatchModel.Loader
/-
  Spec/LoaderSpec.lean — what `loadPatches` guarantees: all sources in order or nothing at all;
  a `-P` list of paths is the same as those paths given with `-p`, in the same order.
-/
namespace Gopatch.Load

theorem loadAll_all_good (good : Src → Bool) : ∀ (srcs : List Src), (∀ s ∈ srcs, good s = true) →
    loadAll good srcs = (srcs, none)
  | [], _ => rfl
  | s :: ss, h => by
    rw [List.forall_mem_cons] at h
    simp [loadAll, h.1, loadAll_all_good good ss h.2]

/-- the failure `loadAll` reports is the first source that does not load -/
theorem loadAll_snd (good : Src → Bool) : ∀ (srcs : List Src), (loadAll good srcs).2 = srcs.find? (fun s => !good s)
  | [] => rfl
  | s :: ss => by
    cases hs : good s <;> simp [loadAll, hs, loadAll_snd good ss]

/-- the source `loadAll` reports does not load, and every source in front of it does -/
theorem loadAll_first_bad (good : Src → Bool) : ∀ (srcs l : List Src) (s : Src), loadAll good srcs = (l, some s) →
    good s = false ∧ ∃ pre post, srcs = pre ++ s :: post ∧ ∀ x ∈ pre, good x = true := by
  intro srcs l s h
  have := (loadAll_snd good srcs).symm.trans (congrArg Prod.snd h)
  simpa [List.find?_eq_some_iff_append] using this

theorem loadAll_none (good : Src → Bool) : ∀ (srcs l : List Src), loadAll good srcs = (l, none) →
    l = srcs ∧ ∀ s ∈ srcs, good s = true := by
  intro srcs l h
  have hall : ∀ s ∈ srcs, good s = true := by
    simpa using (loadAll_snd good srcs).symm.trans (congrArg Prod.snd h)
  rw [loadAll_all_good good srcs hall] at h
  exact ⟨(congrArg Prod.fst h).symm, hall⟩

/-- **All sources, in the order of the plan, or nothing.** `loadPatches` hands over programs only when every source
of the plan loaded, and then exactly the plan, in its order. -/
theorem loaded_is_the_whole_plan (good : Src → Bool) (patches : List Bytes) (listPath : Bytes) (listContent : Option Bytes)
    (l : List Src) (h : loadPatches good patches listPath listContent = .loaded l) :
    l = (plan patches listPath listContent).1 ∧ (∀ s ∈ l, good s = true) ∧ (plan patches listPath listContent).2 = true := by
  unfold loadPatches at h
  simp only at h
  split at h
  next => cases h -- a source does not load
  next l' hr =>
    obtain ⟨rfl, hall⟩ := loadAll_none good _ l' hr
    split at h
    next hlist =>
      cases h
      exact ⟨rfl, hall, hlist⟩
    next => cases h -- the list cannot be opened

def joinNl : List Bytes → Bytes
  | [] => []
  | p :: ps => p ++ [10] ++ joinNl ps

/-- a path as a list may hold it: not empty, no newline in it, no carriage return at its end -/
def PathOK (p : Bytes) : Prop := p ≠ [] ∧ (∀ b ∈ p, b ≠ 10) ∧ p.getLast? ≠ some 13

theorem dropCR_ok (p : Bytes) (h : p.getLast? ≠ some 13) : dropCR p = p := by
  unfold dropCR
  split
  next h' => exact absurd h' h
  next => rfl

theorem scanFrom_line (p : Bytes) (hp : ∀ b ∈ p, b ≠ 10) (rest : Bytes) : ∀ (acc : Bytes),
    scanFrom acc (p ++ 10 :: rest) = dropCR (acc.reverse ++ p) :: scanFrom [] rest := by
  induction p with
  | nil => intro acc; simp [scanFrom]
  | cons b bs ih =>
    intro acc
    rw [List.forall_mem_cons] at hp
    simp only [List.cons_append, scanFrom, beq_eq_false_iff_ne.2 hp.1, Bool.false_eq_true, ↓reduceIte, ih hp.2 (b :: acc)]
    simp

theorem scanLines_joinNl : ∀ (ps : List Bytes), (∀ p ∈ ps, PathOK p) → scanLines (joinNl ps) = ps
  | [], _ => by simp [scanLines, joinNl, scanFrom]
  | p :: ps, h => by
    obtain ⟨⟨_, hnl, hcr⟩, hps⟩ := List.forall_mem_cons.1 h
    have ih := scanLines_joinNl ps hps
    unfold scanLines at ih ⊢
    simp only [joinNl, List.append_assoc, List.singleton_append]
    rw [scanFrom_line p hnl (joinNl ps) []]
    simp only [List.reverse_nil, List.nil_append, dropCR_ok p hcr, ih]

/-- **A list of patches is the same patches given with `-p`, in the same order.** -/
theorem list_is_flags (good : Src → Bool) (paths : List Bytes) (hne : paths ≠ []) (hok : ∀ p ∈ paths, PathOK p)
    (listPath : Bytes) (hlp : listPath ≠ []) :
    loadPatches good [] listPath (some (joinNl paths)) = loadPatches good paths [] none := by
  have hfilter : (scanLines (joinNl paths)).filter (fun l => !l.isEmpty) = paths := by
    rw [scanLines_joinNl paths hok, List.filter_eq_self]
    intro p hp
    simp [(hok p hp).1]
  simp [loadPatches, plan, List.isEmpty_eq_false_iff.2 hlp, List.isEmpty_eq_false_iff.2 hne, hfilter]

theorem flags_before_list (patches : List Bytes) (listPath c : Bytes) (hlp : listPath ≠ []) :
    ∃ fromList, (plan patches listPath (some c)).1 = patches.map Src.file ++ fromList := by
  refine ⟨((scanLines c).filter (fun l => !l.isEmpty)).map Src.file, ?_⟩
  simp [plan, List.isEmpty_eq_false_iff.2 hlp]

end Gopatch.Load
