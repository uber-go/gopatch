import GopatchModel.Engine
/-
  Spec/Typing.lean — what it means for a reflected value to be a well-typed Go
  syntax tree, and the one fact about `eqvM` (the matcher compiled from a
  captured value) that needs it: on well-typed values of one static type,
  `eqvM c a` says that `c` and `a` have the same normal form (`norm`, `eqvM_iff_norm`),
  so "matches the same captured code" is Euclidean: two pieces of code that both
  match a third match each other.  This is what makes the order-free notion of
  "all occurrences of a metavariable stand for identical code" agree with the
  matcher's "compare with the first occurrence".

  The schema (field types per struct type, element type per slice type) is a
  parameter: every theorem holds for every schema.  The harness dumps the schema
  of go/ast by reflection on every run and the driver checks `wtv` and `nf` on
  every tree it is given (the field `(typed …)` of the `engine` stream).
-/
namespace Gopatch

/-- the static type of a slot, as far as the reflection engine distinguishes it -/
inductive Tag where
  | pos | str | int | bool
  | ptr (t : String)
  | iface (i : String)
  | slice (e : String)
  deriving DecidableEq, Repr, Inhabited

def V.tag : V → Tag
  | .pos _ _ => .pos
  | .str _ => .str
  | .int _ => .int
  | .bool _ => .bool
  | .nilP t => .ptr t
  | .ptr t _ _ => .ptr t
  | .nilI i => .iface i
  | .iface i _ => .iface i
  | .nilS e => .slice e
  | .slice e _ => .slice e

structure Schema where
  fields : String → Option (List Tag)   -- struct type ↦ static types of its fields
  elem : String → Tag                   -- slice element type ↦ static type of the elements

def tagsOf (vs : List V) : List Tag := vs.map V.tag

def tagsAll (t : Tag) : List V → Bool
  | [] => true
  | v :: vs => decide (v.tag = t) && tagsAll t vs

/-- a non-nil interface value holds a non-nil pointer to a node that is not a comment/object -/
def dynOK : V → Bool
  | .ptr t _ _ => !ignoredPtr t
  | _ => false

mutual
/-- well-typed with respect to the schema (comment groups and objects are opaque) -/
def wtv (sc : Schema) : V → Bool
  | .iface _ v => dynOK v && wtv sc v
  | .slice e vs => tagsAll (sc.elem e) vs && wtvs sc vs
  | .ptr t _ fs =>
      ignoredPtr t ||
      (match sc.fields t with
       | some tags => decide (tagsOf fs = tags) && wtvs sc fs
       | none => false)
  | _ => true
def wtvs (sc : Schema) : List V → Bool
  | [] => true
  | v :: vs => wtv sc v && wtvs sc vs
end

mutual
/-- go/parser's normal form: an absent list is nil, never an empty non-nil slice, for the
element types whose matcher distinguishes the two -/
def nf : V → Bool
  | .iface _ v => nf v
  | .slice e vs => (dotsElem e || !vs.isEmpty) && nfs vs
  | .ptr t _ fs => ignoredPtr t || nfs fs
  | _ => true
def nfs : List V → Bool
  | [] => true
  | v :: vs => nf v && nfs vs
end

theorem exprType_not_ignored (t : String) (h : isExprType t = true) : ignoredPtr t = false := by
  cases hi : ignoredPtr t with
  | false => rfl
  | true =>
    simp only [ignoredPtr, Bool.or_eq_true, beq_iff_eq] at hi
    rcases hi with rfl | rfl <;> simp [isExprType, exprTypes] at h

theorem bodyIdx_not_ignored {t : String} {bi : Nat} (h : bodyIdxOf t = some bi) : ignoredPtr t = false := by
  cases hi : ignoredPtr t with
  | false => rfl
  | true =>
    simp only [ignoredPtr, Bool.or_eq_true, beq_iff_eq] at hi
    rcases hi with rfl | rfl <;> simp [bodyIdxOf] at h

/-- what a metavariable may bind is a node proper, never a comment group or an object -/
theorem kindOK_dynOK (k : Kind) (g : V) (hk : kindOK k g = true) (hn : g.isNil = false) : dynOK g = true := by
  unfold kindOK at hk
  split at hk
  · cases beq_iff_eq.1 hk; rfl -- `.ident`, a node
  · cases hn -- `.ident`, nil
  · simp [dynOK, exprType_not_ignored _ hk] -- `.expr`, a node
  · cases hn -- `.expr`, nil
  · cases hk

/-- well-typed and in parser normal form: the two conditions under which the theorems about instances hold -/
def Typed (sc : Schema) (g : V) : Prop := wtv sc g = true ∧ nf g = true
def TypedL (sc : Schema) (gs : List V) : Prop := wtvs sc gs = true ∧ nfs gs = true

section
variable {sc : Schema}

theorem Typed.iface {i : String} {v : V} (h : Typed sc (.iface i v)) : Typed sc v := by
  simp only [Typed, wtv, nf, Bool.and_eq_true] at h
  exact ⟨h.1.2, h.2⟩

theorem Typed.slice {e : String} {vs : List V} (h : Typed sc (.slice e vs)) : TypedL sc vs := by
  simp only [Typed, wtv, nf, Bool.and_eq_true] at h
  exact ⟨h.1.2, h.2.2⟩

theorem Typed.ptr {t : String} {id : Nat} {fs : List V} (hi : ignoredPtr t = false) (h : Typed sc (.ptr t id fs)) :
    TypedL sc fs := by
  simp only [Typed, wtv, nf, hi, Bool.false_or] at h
  cases hs : sc.fields t with
  | none => simp [hs] at h
  | some tags =>
    simp only [hs, Bool.and_eq_true] at h
    exact ⟨h.1.2, h.2⟩

theorem TypedL.nil : TypedL sc [] := ⟨rfl, rfl⟩

theorem TypedL.head {v : V} {vs : List V} (h : TypedL sc (v :: vs)) : Typed sc v := by
  simp only [TypedL, wtvs, nfs, Bool.and_eq_true] at h
  exact ⟨h.1.1, h.2.1⟩

theorem TypedL.tail {v : V} {vs : List V} (h : TypedL sc (v :: vs)) : TypedL sc vs := by
  simp only [TypedL, wtvs, nfs, Bool.and_eq_true] at h
  exact ⟨h.1.2, h.2.2⟩

theorem TypedL.append_right : ∀ {a b : List V}, TypedL sc (a ++ b) → TypedL sc b
  | [], _, h => h
  | _ :: a, _, h => TypedL.append_right (a := a) h.tail

theorem TypedL.get : ∀ {gs : List V} {i : Nat} {v : V}, TypedL sc gs → gs[i]? = some v → Typed sc v
  | _ :: _, 0, _, h, hv => by cases hv; exact h.head
  | _ :: _, _ + 1, _, h, hv => h.tail.get hv

end

theorem tagsOf_of_tagsAll {t : Tag} : ∀ {vs : List V}, tagsAll t vs = true → tagsOf vs = List.replicate vs.length t
  | [], _ => rfl
  | v :: vs, h => by
      simp only [tagsAll, Bool.and_eq_true, decide_eq_true_eq] at h
      simp only [tagsOf, List.map_cons, List.length_cons, List.replicate_succ, h.1, List.cons.injEq, true_and]
      exact tagsOf_of_tagsAll h.2

theorem eqvMs_length : ∀ (cs as : List V), eqvMs cs as = true → cs.length = as.length
  | [], [], _ => rfl
  | c :: cs, a :: as, h => by
      simp only [eqvMs, Bool.and_eq_true] at h
      simp [eqvMs_length cs as h.2]
  | [], _ :: _, h | _ :: _, [], h => by simp [eqvMs] at h

/-- dynamic values of interfaces: matching forces the same node type -/
theorem dyn_tag_eq (c a : V) (hc : dynOK c = true) (ha : dynOK a = true) (h : eqvM c a = true) : c.tag = a.tag := by
  cases c <;> simp only [dynOK, Bool.not_eq_true', reduceCtorEq] at hc
  cases a <;> simp only [dynOK, reduceCtorEq] at ha
  rw [eqvM.eq_def] at h
  simp only [hc, Bool.false_or, Bool.and_eq_true, beq_iff_eq] at h
  simp [V.tag, h.1]

/-! What `eqvM c` looks at: positions count as valid or not, identities do not count, comment groups and objects are
absent, a nil slice is an empty one.  On well-typed values of one static type `eqvM c a` says that `c` and `a` are equal
up to that, so it is an equivalence there; without typing it is not (an ignored pointer accepts anything). -/
mutual
def norm : V → V
  | .pos v _ => .pos v 0
  | .nilS e => .slice e []
  | .iface i v => .iface i (norm v)
  | .slice e vs => .slice e (norms vs)
  | .ptr t _ fs => if ignoredPtr t then .nilP t else .ptr t 0 (norms fs)
  | v => v
def norms : List V → List V
  | [] => []
  | v :: vs => norm v :: norms vs
end

theorem norm_tag (v : V) : (norm v).tag = v.tag := by
  cases v with
  | ptr t _ _ => rw [norm]; split <;> rfl
  | _ => rfl

theorem norms_length : ∀ vs : List V, (norms vs).length = vs.length
  | [] => rfl
  | _ :: vs => by simp [norms, norms_length vs]

mutual
theorem eqvM_iff_norm (sc : Schema) : ∀ (c a : V), wtv sc c = true → wtv sc a = true → nf a = true → c.tag = a.tag →
    (eqvM c a = true ↔ norm c = norm a)
  | .pos _ _, a, _, _, _, ta | .str _, a, _, _, _, ta | .int _, a, _, _, _, ta | .bool _, a, _, _, _, ta => by
      cases a <;> cases ta
      simp [eqvM, norm]
  | .nilP t, a, _, _, _, ta => by
      cases a <;> cases ta
      case nilP => simp [eqvM, norm, V.isNil]
      case ptr => by_cases hi : ignoredPtr t = true <;> simp [eqvM, norm, V.isNil, hi]
  | .nilI i, a, _, _, _, ta => by
      cases a <;> cases ta <;> simp [eqvM, norm, V.isNil]
  | .nilS e, a, _, _, na, ta => by
      cases a with
      | nilS _ =>
        cases ta
        by_cases hd : dotsElem e = true <;> simp [eqvM, norm, V.isNil, hd]
      | slice _ as =>
        cases ta
        cases as with
        | nil =>
          have hd : dotsElem e = true := by simpa [nf, nfs] using na
          simp [eqvM, norm, norms, hd]
        | cons x xs => by_cases hd : dotsElem e = true <;> simp [eqvM, norm, norms, V.isNil, hd]
      | _ => cases ta
  | .iface i cv, a, wc, wa, na, ta => by
      cases a with
      | nilI _ => simp [eqvM, norm]
      | iface _ av =>
        cases ta
        simp only [wtv, Bool.and_eq_true] at wc wa
        simp only [nf] at na
        have ih := eqvM_iff_norm sc cv av wc.2 wa.2 na
        simp only [eqvM, norm, V.iface.injEq, true_and]
        exact ⟨fun h => (ih (dyn_tag_eq cv av wc.1 wa.1 h)).1 h,
               fun h => (ih (by rw [← norm_tag cv, h, norm_tag])).2 h⟩
      | _ => cases ta
  | .slice e cs, a, wc, wa, na, ta => by
      cases a with
      | nilS _ =>
        cases ta
        cases cs <;> simp [eqvM, norm, norms]
      | slice _ as =>
        cases ta
        simp only [wtv, Bool.and_eq_true] at wc wa
        simp only [nf, Bool.and_eq_true] at na
        simp only [eqvM, norm, V.slice.injEq, true_and]
        exact eqvMs_iff_norms sc cs as wc.2 wa.2 na.2 fun hl => by rw [tagsOf_of_tagsAll wc.1, tagsOf_of_tagsAll wa.1, hl]
      | _ => cases ta
  | .ptr t idc cfs, a, wc, wa, na, ta => by
      by_cases hi : ignoredPtr t = true
      · cases a <;> cases ta <;> simp [eqvM, norm, hi]
      · cases a with
        | nilP _ => simp [eqvM, norm, hi]
        | ptr _ _ afs =>
          cases ta
          simp only [wtv, nf, hi, Bool.false_or] at wc wa na
          cases hs : sc.fields t with
          | none => simp [hs] at wc
          | some tags =>
            simp only [hs, Bool.and_eq_true, decide_eq_true_eq] at wc wa
            simp only [eqvM, norm, hi, Bool.false_or, beq_self_eq_true, Bool.true_and, Bool.false_eq_true, ↓reduceIte,
              V.ptr.injEq, true_and]
            exact eqvMs_iff_norms sc cfs afs wc.2 wa.2 na (fun _ => wc.1.trans wa.1.symm)
        | _ => cases ta
termination_by structural c => c
/-- the static types are asked to agree only once the lengths do: the typing of a slice gives no more (`tagsOf_of_tagsAll`) -/
theorem eqvMs_iff_norms (sc : Schema) : ∀ (cs as : List V), wtvs sc cs = true → wtvs sc as = true → nfs as = true →
    (cs.length = as.length → tagsOf cs = tagsOf as) → (eqvMs cs as = true ↔ norms cs = norms as)
  | [], [], _, _, _, _ | [], _ :: _, _, _, _, _ | _ :: _, [], _, _, _, _ => by simp [eqvMs, norms]
  | c :: cs, a :: as, wc, wa, na, ht => by
      simp only [wtvs, nfs, Bool.and_eq_true] at wc wa na
      have ht' : cs.length = as.length → c.tag = a.tag ∧ tagsOf cs = tagsOf as := by simpa [tagsOf] using ht
      have ih := eqvM_iff_norm sc c a wc.1 wa.1 na.1
      have ihs := eqvMs_iff_norms sc cs as wc.2 wa.2 na.2
      simp only [eqvMs, norms, Bool.and_eq_true, List.cons.injEq]
      constructor
      · intro h
        have t := ht' (eqvMs_length cs as h.2)
        exact ⟨(ih t.1).1 h.1, (ihs fun _ => t.2).1 h.2⟩
      · intro h
        have t := ht' (by simpa [norms_length] using congrArg List.length h.2)
        exact ⟨(ih t.1).2 h.1, (ihs fun _ => t.2).2 h.2⟩
termination_by structural cs => cs
end

/-- On well-typed values of one static type in parser normal form, code that matches the same
captured value matches each other. -/
theorem eqvM_euclid (sc : Schema) : ∀ (c a b : V),
    wtv sc c = true → wtv sc a = true → wtv sc b = true → nf a = true → nf b = true →
    c.tag = a.tag → c.tag = b.tag → eqvM c a = true → eqvM c b = true → eqvM a b = true :=
  fun c a b wc wa wb na nb ta tb ha hb => (eqvM_iff_norm sc a b wa wb nb (ta.symm.trans tb)).2
    (((eqvM_iff_norm sc c a wc wa na ta).1 ha).symm.trans ((eqvM_iff_norm sc c b wc wb nb tb).1 hb))

theorem eqvMs_euclid (sc : Schema) : ∀ (cs as bs : List V),
    wtvs sc cs = true → wtvs sc as = true → wtvs sc bs = true → nfs as = true → nfs bs = true →
    tagsOf cs = tagsOf as → tagsOf cs = tagsOf bs → eqvMs cs as = true → eqvMs cs bs = true → eqvMs as bs = true :=
  fun cs as bs wc wa wb na nb ta tb ha hb => (eqvMs_iff_norms sc as bs wa wb nb fun _ => ta.symm.trans tb).2
    (((eqvMs_iff_norms sc cs as wc wa na fun _ => ta).1 ha).symm.trans ((eqvMs_iff_norms sc cs bs wc wb nb fun _ => tb).1 hb))

end Gopatch
