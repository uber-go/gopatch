import GopatchModel.Spec.Run
/-
  Spec/Complete.lean — the converse of soundness for patterns without
  metavariables: every syntactic instance is accepted by the matcher, whatever
  data it is started with.  (For patterns with metavariables the matcher binds
  the first occurrence and compares the others against it; that case needs
  well-typed code and is `matchV_complete_nodots` in Spec/All.)
-/
namespace Gopatch

mutual
/-- no identifier of the pattern is a declared metavariable -/
def ground (mt : Meta) : V → Bool
  | .iface _ v => ground mt v
  | .slice _ vs => groundL mt vs
  | .ptr t _ fs =>
      ignoredPtr t || (!(t == "ast.Ident" && (mt.look (identName fs)).isSome) && groundL mt fs)
  | _ => true
def groundL (mt : Meta) : List V → Bool
  | [] => true
  | v :: vs => ground mt v && groundL mt vs
end

mutual
theorem matchV_complete (mt : Meta) (σ : Subst) : ∀ (p g : V), ground mt p = true → Inst mt σ p g →
    ∀ d, ∃ d', matchV mt p g d = some d'
  | .pos _ _, _, _, hi, d | .str _, _, _, hi, d | .int _, _, _, hi, d | .bool _, _, _, hi, d
  | .nilP _, _, _, hi, d | .nilI _, _, _, hi, d | .nilS _, _, _, hi, d => matchV_leaf_of_inst rfl hi d
  | .iface i pv, g, hg, hi, d => by
      cases hi with
      | iface _ _ _ gv h1 =>
        unfold matchV
        unfold ground at hg
        exact matchV_complete mt σ pv gv hg h1 d
  | .slice e ps, g, hg, hi, d => by
      unfold ground at hg
      unfold matchV
      cases hi with
      | sliceDots _ _ _ gs hd hs =>
        simp only [hd, ↓reduceIte]
        exact matchSeq_complete' mt σ e ps gs hg hs d
      | sliceDotsNil _ _ _ hd hs =>
        simp only [hd, ↓reduceIte]
        exact matchSeq_complete' mt σ e ps [] hg hs d
      | slice _ _ _ gs hd hl =>
        simp only [hd, Bool.false_eq_true, ↓reduceIte]
        exact matchVs_complete mt σ ps gs hg hl d
      | sliceEmptyNil _ _ hd =>
        simp [hd]
  | .ptr t id fs, g, hg, hi, d => by
      unfold ground at hg
      cases hig : ignoredPtr t with
      | true => exact ⟨d, matchV_ignored g d hig⟩
      | false =>
        simp only [hig, Bool.false_or, Bool.and_eq_true, Bool.not_eq_true', Bool.and_eq_false_iff] at hg
        cases hi with
        | ignoredPtr _ _ _ _ h => rw [h] at hig; cases hig
        | metavar _ _ _ _ _ hk =>
          rcases hg.1 with h | h
          · simp at h
          · simp [hk] at h
        | forDots _ _ _ _ _ _ _ _ gb hk hbi hgb hn =>
          rw [matchV_forDots _ d hk]
          simp only [hbi, hgb]
          exact matchNth_complete mt σ fs 4 gb hg.2 hn _
        | ptr _ _ _ _ gs hnone hfd hl =>
          rw [matchV_plain _ d hig hnone hfd]
          simp only [beq_self_eq_true, ↓reduceIte]
          exact matchVs_complete mt σ fs gs hg.2 hl d
termination_by structural p => p
theorem matchVs_complete (mt : Meta) (σ : Subst) : ∀ (ps gs : List V), groundL mt ps = true → InstList mt σ ps gs →
    ∀ d, ∃ d', matchVs mt ps gs d = some d'
  | [], gs, _, hi, d => by cases hi; rw [matchVs.eq_def]; simp
  | p :: ps, gs, hg, hi, d => by
      simp only [groundL, Bool.and_eq_true] at hg
      cases hi with
      | cons _ g _ gs' h1 h2 =>
        obtain ⟨d1, e1⟩ := matchV_complete mt σ p g hg.1 h1 d
        obtain ⟨d2, e2⟩ := matchVs_complete mt σ ps gs' hg.2 h2 d1
        exact ⟨d2, by rw [matchVs.eq_def]; simp [e1, e2]⟩
termination_by structural ps => ps
theorem matchSeq_complete' (mt : Meta) (σ : Subst) (e : String) : ∀ (ps gs : List V), groundL mt ps = true →
    InstSeq mt σ e ps gs → ∀ d, ∃ d', matchSeq mt e ps gs d = some d'
  | [], gs, _, hi, d => by cases hi; exact ⟨d, by simp [matchSeq_nil]⟩
  | p :: ps, gs, hg, hi, d => by
      simp only [groundL, Bool.and_eq_true] at hg
      cases hi with
      | dots _ _ k _ run rest hk hs =>
        obtain ⟨d2, e2⟩ := matchSeq_complete' mt σ e ps rest hg.2 hs (d.pushDots k run)
        rw [matchSeq_cons_dots hk]
        exact firstSome_splits_isSome (f := fun sr => matchSeq mt e ps sr.2 (d.pushDots k sr.1)) e2
      | elem _ _ g _ gs' hk h1 hs =>
        obtain ⟨d1, e1⟩ := matchV_complete mt σ p g hg.1 h1 d
        obtain ⟨d2, e2⟩ := matchSeq_complete' mt σ e ps gs' hg.2 hs d1
        exact ⟨d2, by simp [matchSeq_cons_elem hk, e1, e2]⟩
termination_by structural ps => ps
theorem matchNth_complete (mt : Meta) (σ : Subst) : ∀ (ps : List V) (i : Nat) (g : V), groundL mt ps = true →
    InstNth mt σ ps i g → ∀ d, ∃ d', matchNth mt ps i g d = some d'
  | [], _, _, _, hi, _ => by cases hi
  | p :: ps, 0, g, hg, hi, d => by
      simp only [groundL, Bool.and_eq_true] at hg
      cases hi with
      | here _ _ _ h => rw [matchNth.eq_def]; exact matchV_complete mt σ p g hg.1 h d
  | p :: ps, i + 1, g, hg, hi, d => by
      simp only [groundL, Bool.and_eq_true] at hg
      cases hi with
      | there _ _ _ _ h => rw [matchNth.eq_def]; exact matchNth_complete mt σ ps i g hg.2 h d
termination_by structural ps => ps
end

end Gopatch
