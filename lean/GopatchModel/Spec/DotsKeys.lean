import GopatchModel.FileM
import GopatchModel.Spec.Run
/-
  Spec/DotsKeys.lean — elided runs are stored under the patch position of their
  "...".  Matching a pattern writes only under the keys of the elisions that
  occur in it (`collectDots`, `Run.lookDots_eq`); so the run recorded for one elision
  is still there at the end provided no other elision has the same key, which is
  `C04.elision_run_kept`.  (The repaired defect F24 was two elisions with one key.)
-/
namespace Gopatch

theorem lookDots_pushDots_ne (d : Data) (k k' : Nat) (run : List V) (h : k' ≠ k) :
    (d.pushDots k run).lookDots k' = d.lookDots k' := by
  simp only [Data.lookDots, Data.pushDots, List.lookup_cons]
  rw [beq_eq_false_iff_ne.2 h]

theorem lookDots_pushPos (d : Data) (k k' : Nat) : (d.pushPos k).lookDots k' = d.lookDots k' := rfl
theorem lookDots_pushFor (d : Data) (k k' : Nat) (f : ForData) : (d.pushFor k f).lookDots k' = d.lookDots k' := rfl
theorem lookDots_pushMv (d : Data) (n : String) (v : V) (k' : Nat) : (d.pushMv n v).lookDots k' = d.lookDots k' := rfl

def Job.dotsKeys : Job → List Nat
  | .val p _ => collectDots p
  | .list ps _ => collectDotsL ps
  | .seq e ps _ => collectSeq e ps
  | .nth ps i _ => collectNth ps i

theorem Run.lookDots_eq {mt : Meta} {q : Nat} {j d d'} (h : Run mt j d d') :
    q ∉ j.dotsKeys → d'.lookDots q = d.lookDots q := by
  induction h with
  | leaf hl h => rcases (matchV_leaf hl h).1 with rfl | ⟨k, rfl⟩ <;> exact fun _ => rfl
  | metavar _ h => obtain ⟨_, _, ⟨c, _, _, rfl⟩ | ⟨_, rfl⟩⟩ := matchMetavar_some.1 h <;> exact fun _ => rfl
  | sliceEmptyNil | ignored | nil | seqNil => exact fun _ => rfl
  | iface _ ih => exact ih
  | sliceDots hd _ ih | sliceDotsNil hd _ ih | slice hd _ ih =>
      exact fun hq => ih (by simpa [Job.dotsKeys, collectDots, hd] using hq)
  | forDots hk _ _ _ ih =>
      intro hq
      simp only [Job.dotsKeys, collectDots, (forDotsKeyOf_some hk).1, hk, Bool.false_eq_true, ↓reduceIte, List.mem_cons,
        not_or] at hq
      exact ih hq.2
  | ptr hi _ hf _ ih => exact fun hq => ih (by simpa [Job.dotsKeys, collectDots, hi, hf] using hq)
  | cons _ _ ih ihs =>
      intro hq
      simp only [Job.dotsKeys, collectDotsL, List.mem_append, not_or] at hq
      rw [ihs hq.2, ih hq.1]
  | elem hk _ _ ih ihs =>
      intro hq
      simp only [Job.dotsKeys, collectSeq, hk, List.mem_append, not_or] at hq
      rw [ihs hq.2, ih hq.1]
  | dots hk _ ih =>
      intro hq
      simp only [Job.dotsKeys, collectSeq, hk, List.mem_cons, not_or] at hq
      rw [ih hq.2, lookDots_pushDots_ne _ _ _ _ hq.1]
  | here _ ih | there _ ih => exact ih

/-- matching writes elided runs only under the keys of the pattern's own elisions -/
theorem matchV_dots (mt : Meta) : ∀ (p g : V) (d d' : Data), matchV mt p g d = some d' →
    ∀ q, q ∉ collectDots p → d'.lookDots q = d.lookDots q :=
  fun p g d d' h _ => (matchV_run mt p g d d' h).lookDots_eq
theorem matchNth_dots (mt : Meta) : ∀ (ps : List V) (i : Nat) (g : V) (d d' : Data), matchNth mt ps i g d = some d' →
    ∀ q, q ∉ collectNth ps i → d'.lookDots q = d.lookDots q :=
  fun ps i g d d' h _ => (matchNth_run mt ps i g d d' h).lookDots_eq

end Gopatch
