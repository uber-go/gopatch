import GopatchModel.Spec.Inst
import GopatchModel.Spec.Search
/-
  Spec/Run.lean — what a successful match is, as a derivation: `Run mt (.val p g) d d'` says that matching the pattern `p`
  against the code `g` can take the data store `d` to `d'`, for some choice of run for every elision.  The engine's
  matcher commits to one such choice (`matchV_run`); the reference matcher of `Spec/All` returns exactly all of them.
  Everything that holds of every successful match (soundness, what is recorded and under which keys, invariants of the
  data store) is proved once, by induction over derivations.
-/
namespace Gopatch

/-- patterns the matcher decides on the spot, without descending -/
def isLeaf : V → Bool
  | .iface _ _ => false
  | .slice _ _ => false
  | .ptr _ _ _ => false
  | _ => true

/-- what is to be matched: the arguments of `matchV`, `matchVs`, `matchSeq` and `matchNth`.  The four matchers are one
recursion, so their derivations are one inductive family and a property of all of them is one induction. -/
inductive Job where
  | val (p g : V)
  | list (ps gs : List V)
  | seq (e : String) (ps gs : List V)
  | nth (ps : List V) (i : Nat) (g : V)

inductive Run (mt : Meta) : Job → Data → Data → Prop
  | leaf {p g d d'} : isLeaf p = true → matchV mt p g d = some d' → Run mt (.val p g) d d'
  | iface {i j p g d d'} : Run mt (.val p g) d d' → Run mt (.val (.iface i p) (.iface j g)) d d'
  | sliceDots {e e' ps gs d d'} : dotsElem e = true → Run mt (.seq e ps gs) d d' →
      Run mt (.val (.slice e ps) (.slice e' gs)) d d'
  | sliceDotsNil {e e' ps d d'} : dotsElem e = true → Run mt (.seq e ps []) d d' →
      Run mt (.val (.slice e ps) (.nilS e')) d d'
  | slice {e e' ps gs d d'} : dotsElem e = false → Run mt (.list ps gs) d d' →
      Run mt (.val (.slice e ps) (.slice e' gs)) d d'
  | sliceEmptyNil {e e' d} : dotsElem e = false → Run mt (.val (.slice e []) (.nilS e')) d d
  | ignored {t id fs g d} : ignoredPtr t = true → Run mt (.val (.ptr t id fs) g) d d
  | metavar {id fs k g d d'} : mt.look (identName fs) = some k → matchMetavar k (identName fs) g d = some d' →
      Run mt (.val (.ptr "ast.Ident" id fs) g) d d'
  | forDots {t id fs k t' id' gs bi gb d d'} : forDotsKeyOf t fs = some k → bodyIdxOf t' = some bi →
      gs[bi]? = some gb → Run mt (.nth fs 4 gb) (d.pushFor k { ty := t', bodyIdx := bi, fields := gs }) d' →
      Run mt (.val (.ptr t id fs) (.ptr t' id' gs)) d d'
  | ptr {t id id' fs gs d d'} : ignoredPtr t = false → (t = "ast.Ident" → mt.look (identName fs) = none) →
      forDotsKeyOf t fs = none → Run mt (.list fs gs) d d' → Run mt (.val (.ptr t id fs) (.ptr t id' gs)) d d'
  | nil {d} : Run mt (.list [] []) d d
  | cons {p g ps gs d d₁ d'} : Run mt (.val p g) d d₁ → Run mt (.list ps gs) d₁ d' →
      Run mt (.list (p :: ps) (g :: gs)) d d'
  | seqNil {e d} : Run mt (.seq e [] []) d d
  | dots {e p k ps run rest d d'} : dotsKeyOf e p = some k → Run mt (.seq e ps rest) (d.pushDots k run) d' →
      Run mt (.seq e (p :: ps) (run ++ rest)) d d'
  | elem {e p g ps gs d d₁ d'} : dotsKeyOf e p = none → Run mt (.val p g) d d₁ → Run mt (.seq e ps gs) d₁ d' →
      Run mt (.seq e (p :: ps) (g :: gs)) d d'
  | here {p g ps d d'} : Run mt (.val p g) d d' → Run mt (.nth (p :: ps) 0 g) d d'
  | there {p g ps i d d'} : Run mt (.nth ps i g) d d' → Run mt (.nth (p :: ps) (i + 1) g) d d'

/-- only a `for` statement can be a `for ... {` header, so such a pattern is neither ignored nor an identifier -/
theorem forDotsKeyOf_some {t : String} {fs : List V} {k : Nat} (h : forDotsKeyOf t fs = some k) :
    ignoredPtr t = false ∧ (t == "ast.Ident") = false := by
  unfold forDotsKeyOf at h
  split at h
  · rename_i ht
    cases beq_iff_eq.1 ht
    exact ⟨rfl, rfl⟩
  · cases h

theorem matchMetavar_some {k : Kind} {name : String} {g : V} {d d' : Data} :
    matchMetavar k name g d = some d' ↔ kindOK k g = true ∧ g.isNil = false ∧
      ((∃ c, d.lookMv name = some c ∧ eqvM c g = true ∧ d' = d) ∨ (d.lookMv name = none ∧ d' = d.pushMv name g)) := by
  unfold matchMetavar
  cases kindOK k g <;> cases g.isNil <;> simp only [Bool.not_true, Bool.not_false, Bool.or_self, Bool.or_true,
    Bool.or_false, ↓reduceIte, reduceCtorEq, false_and, true_and, Bool.false_eq_true]
  cases d.lookMv name with
  | none => simp [@eq_comm _ d']
  | some c => by_cases he : eqvM c g = true <;> simp [he, @eq_comm _ d']

theorem matchV_leaf {mt : Meta} {p g : V} {d d' : Data} (hl : isLeaf p = true) (h : matchV mt p g d = some d') :
    (d' = d ∨ ∃ k, d' = d.pushPos k) ∧ ∀ σ, Inst mt σ p g := by
  cases p <;> cases hl <;> unfold matchV at h
  case pos pv pk =>
    cases g <;> simp only at h <;> try (cases h)
    split at h
    · rename_i he
      cases beq_iff_eq.1 he
      cases h
      refine ⟨?_, fun _ => .pos ..⟩
      cases pv with
      | false => exact .inl rfl
      | true => exact .inr ⟨pk, rfl⟩
    · cases h
  case str | int | bool =>
    cases g <;> simp only at h <;> try (cases h)
    split at h
    · rename_i he; cases beq_iff_eq.1 he; cases h; exact ⟨.inl rfl, fun _ => by constructor⟩
    · cases h
  case nilP t =>
    split at h
    · rename_i hc
      cases h
      refine ⟨.inl rfl, fun _ => ?_⟩
      rcases Bool.or_eq_true _ _ ▸ hc with hi | hn
      · exact .ignoredNil t g hi
      · exact .nilP t g hn
    · cases h
  case nilI i =>
    split at h
    · rename_i hc; cases h; exact ⟨.inl rfl, fun _ => .nilI i g hc⟩
    · cases h
  case nilS e =>
    split at h
    · rename_i hde
      split at h
      · cases h; exact ⟨.inl rfl, fun _ => .nilSNil e _ hde⟩
      · cases h; exact ⟨.inl rfl, fun _ => .nilSEmpty e _ hde⟩
      · cases h
    · rename_i hde
      split at h
      · rename_i hn; cases h; exact ⟨.inl rfl, fun _ => .nilS e g (by simpa using hde) hn⟩
      · cases h

theorem matchV_leaf_of_inst {mt : Meta} {σ : Subst} {p g : V} (hl : isLeaf p = true) (hi : Inst mt σ p g) (d : Data) :
    ∃ d', matchV mt p g d = some d' := by
  cases hi <;> cases hl <;> (unfold matchV; simp [*])

/-- how the matcher treats a pointer pattern: the four branches of its cascade of tests, which `matchV`, the reference
matcher and the derivations share -/
inductive PtrCase (mt : Meta) (t : String) (fs : List V) : Prop
  | ignored : ignoredPtr t = true → PtrCase mt t fs
  | metavar (k : Kind) : t = "ast.Ident" → mt.look (identName fs) = some k → PtrCase mt t fs
  | forDots (k : Nat) : forDotsKeyOf t fs = some k → PtrCase mt t fs
  | plain : ignoredPtr t = false → (t = "ast.Ident" → mt.look (identName fs) = none) → forDotsKeyOf t fs = none →
      PtrCase mt t fs

theorem ptrCase (mt : Meta) (t : String) (fs : List V) : PtrCase mt t fs := by
  cases hi : ignoredPtr t with
  | true => exact .ignored hi
  | false =>
    cases hf : forDotsKeyOf t fs with
    | some k => exact .forDots k hf
    | none =>
      by_cases ht : t = "ast.Ident"
      · cases hk : mt.look (identName fs) with
        | some k => exact .metavar k ht hk
        | none => exact .plain hi (fun _ => hk) hf
      · exact .plain hi (fun h => absurd h ht) hf

section
variable {mt : Meta} {t : String} {id : Nat} {fs : List V} (g : V) (d : Data)

theorem matchV_ignored (hi : ignoredPtr t = true) : matchV mt (.ptr t id fs) g d = some d := by
  unfold matchV
  rw [if_pos hi]

theorem matchV_metavar {k : Kind} (hk : mt.look (identName fs) = some k) :
    matchV mt (.ptr "ast.Ident" id fs) g d = matchMetavar k (identName fs) g d := by
  unfold matchV
  rw [if_neg (by simp [ignoredPtr]), if_pos (beq_self_eq_true _), hk]

theorem matchV_forDots {k : Nat} (hk : forDotsKeyOf t fs = some k) :
    matchV mt (.ptr t id fs) g d = match g with
      | .ptr t' _ gs => match bodyIdxOf t' with
        | some bi => match gs[bi]? with
          | some gb => matchNth mt fs 4 gb (d.pushFor k { ty := t', bodyIdx := bi, fields := gs })
          | none => none
        | none => none
      | _ => none := by
  unfold matchV
  rw [if_neg (by simp [(forDotsKeyOf_some hk).1]), if_neg (by simp [(forDotsKeyOf_some hk).2]), hk]
  rfl

theorem matchV_plain (hi : ignoredPtr t = false) (hn : t = "ast.Ident" → mt.look (identName fs) = none)
    (hf : forDotsKeyOf t fs = none) :
    matchV mt (.ptr t id fs) g d = match g with
      | .ptr t' _ gs => if t == t' then matchVs mt fs gs d else none
      | _ => none := by
  unfold matchV
  rw [if_neg (by simp [hi])]
  split
  · rename_i ht
    rw [hn (beq_iff_eq.1 ht)]
    rfl
  · rw [hf]
    rfl

end

theorem matchSeq_nil (mt : Meta) (e : String) (gs : List V) (d : Data) :
    matchSeq mt e [] gs d = if gs.isEmpty then some d else none := by
  rw [matchSeq.eq_def]

theorem matchSeq_cons_dots {mt : Meta} {e : String} {p : V} {k : Nat} (hk : dotsKeyOf e p = some k) (ps gs : List V) (d : Data) :
    matchSeq mt e (p :: ps) gs d = firstSome (splits gs) (fun sr => matchSeq mt e ps sr.2 (d.pushDots k sr.1)) := by
  rw [matchSeq.eq_def]
  simp only [hk]

theorem matchSeq_cons_elem {mt : Meta} {e : String} {p : V} (hk : dotsKeyOf e p = none) (ps : List V) (g : V) (gs : List V)
    (d : Data) : matchSeq mt e (p :: ps) (g :: gs) d = (matchV mt p g d).bind (matchSeq mt e ps gs) := by
  rw [matchSeq.eq_def]
  simp only [hk]

theorem matchSeq_cons_nil {mt : Meta} {e : String} {p : V} (hk : dotsKeyOf e p = none) (ps : List V) (d : Data) :
    matchSeq mt e (p :: ps) [] d = none := by
  rw [matchSeq.eq_def]
  simp only [hk]

theorem matchSeq_nil_some {mt : Meta} {e : String} {gs : List V} {d d' : Data} (h : matchSeq mt e [] gs d = some d') :
    gs = [] ∧ d' = d := by
  rw [matchSeq_nil] at h
  split at h
  · rename_i hg
    cases h
    exact ⟨List.isEmpty_iff.1 hg, rfl⟩
  · cases h

theorem matchSeq_cons_some {mt : Meta} {e : String} {p : V} {ps gs : List V} {d d' : Data}
    (h : matchSeq mt e (p :: ps) gs d = some d') :
    (∃ k run rest, dotsKeyOf e p = some k ∧ run ++ rest = gs ∧ matchSeq mt e ps rest (d.pushDots k run) = some d') ∨
    (∃ g gs' d₁, dotsKeyOf e p = none ∧ gs = g :: gs' ∧ matchV mt p g d = some d₁ ∧ matchSeq mt e ps gs' d₁ = some d') := by
  cases hk : dotsKeyOf e p with
  | some k =>
    rw [matchSeq_cons_dots hk] at h
    obtain ⟨run, rest, hcat, hb, _⟩ := firstSome_splits h
    exact .inl ⟨k, run, rest, rfl, hcat, hb⟩
  | none =>
    cases gs with
    | nil => rw [matchSeq_cons_nil hk] at h; cases h
    | cons g gs' =>
      rw [matchSeq_cons_elem hk] at h
      obtain ⟨d₁, h₁, h₂⟩ := Option.bind_eq_some_iff.1 h
      exact .inr ⟨g, gs', d₁, rfl, rfl, h₁, h₂⟩

mutual
theorem matchV_run (mt : Meta) : ∀ (p g : V) (d d' : Data), matchV mt p g d = some d' → Run mt (.val p g) d d'
  | .pos _ _, _, _, _, h | .str _, _, _, _, h | .int _, _, _, _, h | .bool _, _, _, _, h
  | .nilP _, _, _, _, h | .nilI _, _, _, _, h | .nilS _, _, _, _, h => .leaf rfl h
  | .iface i pv, g, d, d', h => by
      unfold matchV at h
      cases g <;> simp only at h <;> try (cases h)
      exact .iface (matchV_run mt pv _ d d' h)
  | .slice e ps, g, d, d', h => by
      unfold matchV at h
      split at h
      · rename_i hde
        cases g <;> simp only at h <;> try (cases h)
        case nilS => exact .sliceDotsNil hde (matchSeq_run mt e ps [] d d' h)
        case slice => exact .sliceDots hde (matchSeq_run mt e ps _ d d' h)
      · rename_i hde
        have hde : dotsElem e = false := by simpa using hde
        cases g <;> simp only at h <;> try (cases h)
        case nilS =>
          split at h
          · rename_i hem
            cases h
            rw [List.isEmpty_iff.1 hem]
            exact .sliceEmptyNil hde
          · cases h
        case slice => exact .slice hde (matchVs_run mt ps _ d d' h)
  | .ptr t id fs, g, d, d', h => by
      cases ptrCase mt t fs with
      | ignored hi =>
        rw [matchV_ignored g d hi] at h
        cases h
        exact .ignored hi
      | metavar k ht hk =>
        subst ht
        rw [matchV_metavar g d hk] at h
        exact .metavar hk h
      | forDots k hk =>
        rw [matchV_forDots g d hk] at h
        cases g <;> simp only at h <;> try (cases h)
        split at h
        · rename_i bi hbi
          split at h
          · rename_i gb hgb
            exact .forDots hk hbi hgb (matchNth_run mt fs 4 gb _ d' h)
          · cases h
        · cases h
      | plain hi hn hf =>
        rw [matchV_plain g d hi hn hf] at h
        cases g <;> simp only at h <;> try (cases h)
        split at h
        · rename_i ht'
          cases beq_iff_eq.1 ht'
          exact .ptr hi hn hf (matchVs_run mt fs _ d d' h)
        · cases h
termination_by structural p => p
theorem matchVs_run (mt : Meta) : ∀ (ps gs : List V) (d d' : Data), matchVs mt ps gs d = some d' →
    Run mt (.list ps gs) d d'
  | [], [], d, d', h => by unfold matchVs at h; cases h; exact .nil
  | [], _ :: _, _, _, h | _ :: _, [], _, _, h => by unfold matchVs at h; cases h
  | p :: ps, g :: gs, d, d', h => by
      unfold matchVs at h
      obtain ⟨d₁, h₁, h₂⟩ := Option.bind_eq_some_iff.1 h
      exact .cons (matchV_run mt p g d d₁ h₁) (matchVs_run mt ps gs d₁ d' h₂)
termination_by structural ps => ps
theorem matchSeq_run (mt : Meta) (e : String) : ∀ (ps gs : List V) (d d' : Data), matchSeq mt e ps gs d = some d' →
    Run mt (.seq e ps gs) d d'
  | [], gs, d, d', h => by
      obtain ⟨rfl, rfl⟩ := matchSeq_nil_some h
      exact .seqNil
  | p :: ps, gs, d, d', h => by
      rcases matchSeq_cons_some h with ⟨k, run, rest, hk, rfl, hb⟩ | ⟨g, gs', d₁, hk, rfl, h₁, h₂⟩
      · exact .dots hk (matchSeq_run mt e ps rest _ d' hb)
      · exact .elem hk (matchV_run mt p g d d₁ h₁) (matchSeq_run mt e ps gs' d₁ d' h₂)
termination_by structural ps => ps
theorem matchNth_run (mt : Meta) : ∀ (ps : List V) (i : Nat) (g : V) (d d' : Data), matchNth mt ps i g d = some d' →
    Run mt (.nth ps i g) d d'
  | [], _, _, _, _, h => by unfold matchNth at h; cases h
  | p :: _, 0, g, d, d', h => by
      unfold matchNth at h
      exact .here (matchV_run mt p g d d' h)
  | _ :: ps, i + 1, g, d, d', h => by
      unfold matchNth at h
      exact .there (matchNth_run mt ps i g d d' h)
termination_by structural ps => ps
end

end Gopatch
