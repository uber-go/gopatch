import GopatchModel.SplitPatch
/-
  Spec/SplitSpec.lean — what `splitPatch` guarantees about the two versions of a change:
  every line entry of a version points, in the patch file, at the very bytes that the version
  holds at the entry's offset (followed, in the version, by a newline); the lines that
  `Sec.split` hands over are lines of the patch file (`LineOf`), so this holds for every change
  of every patch.  With `token.File.Position` moving on with the offset inside a line
  (`position_add`) it follows that every byte of a version is reported at the line and column it
  has in the patch file, a context line at one and the same place in both versions, and that
  three dots in a version are three dots of the file.
-/
namespace Gopatch.Sec

/-- every line start but the first has a newline in front of it -/
theorem mem_lineStartsFrom (bs : Bytes) (i s : Nat) (h : s ∈ lineStartsFrom i bs) :
    ∃ j, s = i + j + 1 ∧ bs[j]? = some nl := by
  fun_induction lineStartsFrom i bs with
  | case1 => cases h
  | case2 i _ _ hb ih => -- a newline with a byte behind it: a line starts
    rcases List.mem_cons.1 h with rfl | h
    · exact ⟨0, rfl, congrArg some (eq_of_beq (Bool.and_eq_true_iff.1 hb).1)⟩
    · obtain ⟨j, hs, hj⟩ := ih h
      exact ⟨j + 1, hs.trans (Nat.add_right_comm i 1 (j + 1)), hj⟩
  | case3 i _ _ _ ih => -- any other byte
    obtain ⟨j, hs, hj⟩ := ih h
    exact ⟨j + 1, hs.trans (Nat.add_right_comm i 1 (j + 1)), hj⟩

theorem position_add (content : Bytes) (off k : Nat) (h : ∀ j, j < k → content[off + j]? ≠ some nl) :
    position content (off + k) = ((position content off).1, (position content off).2 + k) := by
  unfold position
  have hf : (lineStarts content).filter (fun x => decide (x ≤ off + k)) = (lineStarts content).filter (fun x => decide (x ≤ off)) := by
    apply List.filter_congr
    intro s hs
    simp only [lineStarts, List.mem_cons] at hs
    rcases hs with rfl | hs
    · simp
    · -- a line start after `off` has a newline in front of it, which is not among the `k` bytes from `off`
      obtain ⟨j, rfl, hj⟩ := mem_lineStartsFrom content 0 s hs
      have : ¬ (off ≤ j ∧ j < off + k) := by
        rintro ⟨h1, h2⟩
        obtain ⟨d, rfl⟩ := Nat.exists_eq_add_of_le h1
        exact h d (Nat.lt_of_add_lt_add_left h2) hj
      simp only [decide_eq_decide]; omega
  simp only [hf]
  congr 1
  have hg : ((lineStarts content).filter (fun x => decide (x ≤ off))).getLast?.getD 0 ≤ off := by
    cases hl : ((lineStarts content).filter (fun x => decide (x ≤ off))).getLast? with
    | none => simp
    | some g => simpa using (List.mem_filter.1 (List.mem_of_getLast? hl)).2
  rw [Nat.sub_add_comm hg, Nat.add_right_comm]

/-- the text of the line is what the file holds at the line's offset -/
def Slice (content : Bytes) (l : Line) : Prop :=
  ∀ k, k < l.text.length → content[l.off + k]? = l.text[k]?

/-- the bytes `build` writes for the lines -/
def flat : List Line → Bytes
  | [] => []
  | l :: ls => l.text ++ [nl] ++ flat ls

/-- the entries `build` records for the lines, the first of which starts at offset `o` of the version -/
def lps : Nat → List Line → List LinePos
  | _, [] => []
  | o, l :: ls => ⟨o, l.off⟩ :: lps (o + l.text.length + 1) ls

/-- the number of bytes of `flat` (`flat_length`) -/
def size : List Line → Nat
  | [] => 0
  | l :: ls => l.text.length + 1 + size ls

theorem flat_append : ∀ (xs ys : List Line), flat (xs ++ ys) = flat xs ++ flat ys
  | [], _ => rfl
  | x :: xs, ys => by simp [flat, flat_append xs ys]

theorem foldl_add (ls : List Line) : ∀ (v : Version),
    ls.foldl Version.add v = { contents := v.contents ++ flat ls, lines := v.lines ++ lps v.contents.length ls } := by
  induction ls with
  | nil => intro v; simp [flat, lps]
  | cons l ls ih =>
    intro v
    simp only [List.foldl_cons, ih, Version.add, flat, lps, List.length_append, List.length_cons, List.length_nil,
      List.append_assoc, List.cons_append, List.nil_append, Nat.zero_add, Nat.add_assoc]

/-- `build` in closed form -/
theorem build_eq (ls : List Line) : build ls = { contents := flat ls, lines := lps 0 ls } := by
  unfold build
  rw [foldl_add]
  simp

theorem flat_length : ∀ (ls : List Line), (flat ls).length = size ls
  | [] => rfl
  | l :: ls => by simp [flat, size, flat_length ls]; omega

/-- the bytes of the line `l` in `flat (l1 ++ l :: l2)`: its text, then the newline -/
theorem flat_line (l1 l2 : List Line) (l : Line) (j : Nat) :
    (flat (l1 ++ l :: l2))[size l1 + j]? = (l.text ++ nl :: flat l2)[j]? := by
  rw [flat_append, List.getElem?_append_right (flat_length l1 ▸ Nat.le_add_right _ _), flat_length]
  simp [flat]

theorem lps_append : ∀ (xs ys : List Line) (b : Nat), lps b (xs ++ ys) = lps b xs ++ lps (b + size xs) ys
  | [], ys, b => by simp [lps, size]
  | x :: xs, ys, b => by
    simp only [List.cons_append, lps, size, lps_append xs ys, Nat.add_assoc]

theorem mem_lps : ∀ (ls : List Line) (b : Nat), ∀ lp ∈ lps b ls,
    ∃ l1 l l2, ls = l1 ++ l :: l2 ∧ lp = ⟨b + size l1, l.off⟩
  | [], _, lp, h => by simp [lps] at h
  | x :: xs, b, lp, h => by
    simp only [lps, List.mem_cons] at h
    rcases h with rfl | h
    · exact ⟨[], x, xs, rfl, rfl⟩
    · obtain ⟨l1, l, l2, rfl, rfl⟩ := mem_lps xs _ lp h
      exact ⟨x :: l1, l, l2, rfl, by rw [size, ← Nat.add_assoc, ← Nat.add_assoc]⟩

theorem offset_split : ∀ (ls : List Line) (o : Nat), o < (flat ls).length →
    ∃ l1 l l2 k, ls = l1 ++ l :: l2 ∧ k ≤ l.text.length ∧ o = size l1 + k
  | [], o, h => by simp [flat] at h
  | l :: ls, o, h => by
    by_cases ho : o ≤ l.text.length
    · exact ⟨[], l, ls, o, rfl, ho, (Nat.zero_add o).symm⟩
    · -- behind the first line and its newline: `o = l.text.length + o' + 1`
      obtain ⟨o', rfl⟩ := Nat.exists_eq_add_of_lt (Nat.lt_of_not_le ho)
      rw [flat_length, size, ← flat_length] at h
      obtain ⟨l1, l', l2, k, rfl, hk, rfl⟩ := offset_split ls o' (by omega)
      exact ⟨l :: l1, l', l2, k, rfl, hk, by simp only [size]; omega⟩

/-- what a patch line gives to a version: itself, or its text without the first byte -/
theorem sideLine_some (m : Bool) (l l' : Line) :
    sideLine m l = some l' → l' = l ∨ ∃ b, l.text = b :: l'.text ∧ l'.off = l.off + 1 := by
  fun_cases sideLine m l with
  | case1 b _ hl => -- a '-' line in the '-' version
    rintro ⟨rfl⟩
    exact .inr ⟨b, hl, rfl⟩
  | case2 => nofun -- a '-' line in the '+' version
  | case3 => nofun -- a '+' line in the '-' version
  | case4 b _ hl => -- a '+' line in the '+' version
    rintro ⟨rfl⟩
    exact .inr ⟨b, hl, rfl⟩
  | case5 => -- a context line
    rintro ⟨rfl⟩
    exact .inl rfl
  | case6 => -- an empty line
    rintro ⟨rfl⟩
    exact .inl rfl

theorem sideLine_context (m : Bool) (l : Line) (h : ∀ b rest, l.text = b :: rest → b ≠ minusB ∧ b ≠ plusB) :
    sideLine m l = some l := by
  unfold sideLine
  cases hl : l.text with
  | nil => rfl
  | cons b rest =>
    obtain ⟨h1, h2⟩ := h b rest hl
    simp [h1, h2]

theorem sideLine_slice (content : Bytes) (m : Bool) (l l' : Line) (hs : Slice content l) (h : sideLine m l = some l') :
    Slice content l' := by
  obtain rfl | ⟨b, ht, ho⟩ := sideLine_some m l l' h
  · exact hs
  · intro k hk
    have := hs (k + 1) (by simp [ht, hk])
    rwa [ht, List.getElem?_cons_succ, Nat.add_comm k 1, ← Nat.add_assoc, ← ho] at this

theorem version_around (m : Bool) (a b : List Line) (l l' : Line) (hl : sideLine m l = some l') :
    (a ++ l :: b).filterMap (sideLine m) = a.filterMap (sideLine m) ++ l' :: b.filterMap (sideLine m) := by
  simp [List.filterMap_append, hl]

/-- every entry of a version points at bytes of the file that the version repeats, newline-terminated -/
def MapsBack (content : Bytes) (v : Version) : Prop :=
  ∀ lp ∈ v.lines, ∃ n, (∀ k, k < n → v.contents[lp.off + k]? = content[lp.pos + k]? ∧ (content[lp.pos + k]?).isSome) ∧
    v.contents[lp.off + n]? = some nl

theorem build_maps_back (content : Bytes) (ls : List Line) (hs : ∀ l ∈ ls, Slice content l) :
    MapsBack content (build ls) := by
  rw [build_eq]
  intro lp hlp
  obtain ⟨l1, l, l2, rfl, rfl⟩ := mem_lps ls 0 lp hlp
  refine ⟨l.text.length, fun k hk => ?_, ?_⟩
  · simp only [Nat.zero_add, flat_line, List.getElem?_append_left hk, hs l (by simp) k hk, true_and]
    rw [List.getElem?_eq_getElem hk]; rfl
  · simp [flat_line]

/-- **`splitPatch` maps back.** Both versions of a body whose lines are slices of the patch file point, entry by entry,
at the bytes of the file that they repeat. -/
theorem splitPatch_maps_back (content : Bytes) (ls : List Line) (hs : ∀ l ∈ ls, Slice content l) :
    MapsBack content (splitPatch ls).1 ∧ MapsBack content (splitPatch ls).2 := by
  have side : ∀ m, ∀ l' ∈ ls.filterMap (sideLine m), Slice content l' := fun m l' h =>
    let ⟨l, hl, hl'⟩ := List.mem_filterMap.1 h
    sideLine_slice content m l l' (hs l hl) hl'
  exact ⟨build_maps_back content _ (side true), build_maps_back content _ (side false)⟩

/-- `l` is a line of the file: its text stands in the file at its offset and holds no newline -/
def LineOf (content : Bytes) (l : Line) : Prop := Slice content l ∧ nl ∉ l.text

theorem slice_of_pre (content pre txt post : Bytes) (h : content = pre ++ txt ++ post) :
    Slice content ⟨pre.length, txt⟩ := by
  intro k hk
  subst h
  simp [List.getElem?_append_right, List.getElem?_append_left hk]

/-- every line is a stretch of the content, and holds a newline only if the accumulator did -/
theorem linesFrom_line (content : Bytes) (rest acc : Bytes) (off : Nat) (pre : Bytes)
    (hc : content = pre ++ acc.reverse ++ rest) (ho : off = pre.length + acc.length) :
    ∀ l ∈ linesFrom off acc rest, Slice content l ∧ (nl ∈ l.text → nl ∈ acc) := by
  fun_induction linesFrom off acc rest generalizing pre with
  | case1 _ acc => -- the content ends: the last line
    intro l hl
    rw [List.mem_singleton.1 hl, ho, Nat.add_sub_cancel]
    exact ⟨slice_of_pre content pre acc.reverse [] hc, List.mem_reverse.1⟩
  | case2 _ acc b bs _ ih => -- a newline: the line ends here, the next one starts with an empty accumulator
    intro l hl
    rcases List.mem_cons.1 hl with rfl | hl
    · rw [ho, Nat.add_sub_cancel]
      exact ⟨slice_of_pre content pre acc.reverse (b :: bs) hc, List.mem_reverse.1⟩
    · have := ih (pre ++ acc.reverse ++ [b]) (by simpa using hc) (by simp; omega) l hl
      exact ⟨this.1, fun h => absurd (this.2 h) (by simp)⟩
  | case3 _ _ _ _ hb ih => -- any other byte joins the accumulator
    intro l hl
    have := ih pre (by simpa using hc) (by simp; omega) l hl
    refine ⟨this.1, fun h => ?_⟩
    rcases List.mem_cons.1 (this.2 h) with e | h'
    · exact absurd (by simp [← e]) hb
    · exact h'

theorem linesFrom_slice (content : Bytes) : ∀ (rest acc : Bytes) (off : Nat) (pre : Bytes),
    content = pre ++ acc.reverse ++ rest → off = pre.length + acc.length →
    ∀ l ∈ linesFrom off acc rest, Slice content l :=
  fun rest acc off pre hc ho l hl => (linesFrom_line content rest acc off pre hc ho l hl).1

theorem rawLines_sub (content : Bytes) : rawLines content ⊆ linesFrom 0 [] content := by
  unfold rawLines
  split
  · split
    · exact List.dropLast_subset _
    · exact List.Subset.refl _
  · exact List.nil_subset _

theorem rawLines_line (content : Bytes) : ∀ l ∈ rawLines content, LineOf content l := fun l hl =>
  have h := linesFrom_line content content [] 0 [] (by simp) (by simp) l (rawLines_sub content hl)
  ⟨h.1, fun hn => absurd (h.2 hn) (by simp)⟩

theorem rawLines_slice (content : Bytes) : ∀ l ∈ rawLines content, Slice content l :=
  fun l hl => (rawLines_line content l hl).1

theorem sideLine_line (content : Bytes) (m : Bool) (l l' : Line) (hs : LineOf content l) (h : sideLine m l = some l') :
    LineOf content l' := by
  refine ⟨sideLine_slice content m l l' hs.1 h, fun hn => hs.2 ?_⟩
  obtain rfl | ⟨b, ht, _⟩ := sideLine_some m l l' h
  · exact hn
  · rw [ht]; exact List.mem_cons_of_mem _ hn

theorem position_line (content : Bytes) (l : Line) (hl : LineOf content l) (k : Nat) (hk : k ≤ l.text.length) :
    position content (l.off + k) = ((position content l.off).1, (position content l.off).2 + k) := by
  apply position_add
  intro j hj hcon
  have hjl : j < l.text.length := Nat.lt_of_lt_of_le hj hk
  rw [hl.1 j hjl, List.getElem?_eq_getElem hjl, Option.some.injEq] at hcon
  exact hl.2 (hcon ▸ List.getElem_mem hjl)

theorem attachComments_fst (ls : List Line) (acc : List Bytes) :
    (attachComments ls acc).map Prod.fst = ls.filter (fun l => !isComment l.text) := by
  fun_induction attachComments ls acc with
  | case1 => rfl
  | case2 _ _ _ h ih => simp [h, ih] -- a comment line
  | case3 _ _ _ h ih => simp [h, ih] -- any other line

theorem readMeta_P (P : Line → Prop) (rest : List (Line × List Bytes)) (acc : List Line)
    (hr : ∀ x ∈ rest, P x.1) (ha : ∀ l ∈ acc, P l) (m : List Line) (atl : Line) (rest' : List (Line × List Bytes))
    (h : readMeta rest acc = some (m, atl, rest')) : (∀ l ∈ m, P l) ∧ (∀ x ∈ rest', P x.1) := by
  fun_induction readMeta rest acc with
  | case1 => cases h
  | case2 => -- the "@@" line
    cases h
    exact ⟨by simpa using ha, (List.forall_mem_cons.1 hr).2⟩
  | case3 _ _ _ _ _ ih => -- a metavariable line
    rw [List.forall_mem_cons] at hr
    exact ih hr.2 (List.forall_mem_cons.2 ⟨hr.1, ha⟩) h

theorem readPatch_P (P : Line → Prop) (rest : List (Line × List Bytes)) (acc : List Line)
    (hr : ∀ x ∈ rest, P x.1) (ha : ∀ l ∈ acc, P l) :
    (∀ l ∈ (readPatch rest acc).1, P l) ∧ (∀ x ∈ (readPatch rest acc).2, P x.1) := by
  fun_induction readPatch rest acc with
  | case1 => simpa using ha
  | case2 => exact ⟨by simpa using ha, hr⟩ -- a line that starts with '@': the next header
  | case3 _ _ _ _ _ ih => -- a line of the body
    rw [List.forall_mem_cons] at hr
    exact ih hr.2 (List.forall_mem_cons.2 ⟨hr.1, ha⟩)

theorem readProgram_P (P : Line → Prop) (u : Uni) (eofOff : Nat) : ∀ (fuel : Nat) (ls : List (Line × List Bytes)),
    (∀ x ∈ ls, P x.1) → ∀ c ∈ (readProgram u eofOff fuel ls).1, (∀ l ∈ c.patch, P l) ∧ (∀ l ∈ c.metaL, P l) := by
  intro fuel ls hls c hc
  fun_induction readProgram u eofOff fuel ls with
  | case1 => cases hc
  | case2 => cases hc
  | case3 => -- the file ends inside the metavariable section: a change without lines
    rw [List.mem_singleton.1 hc]
    exact ⟨nofun, nofun⟩
  | case4 _ _ _ rest _ _ _ m atl rest' hmeta _ _ hpatch _ _ hrec ih => -- a change with its "@@" line, then the rest
    obtain ⟨hmP, hrest'⟩ := readMeta_P P rest [] (List.forall_mem_cons.1 hls).2 nofun m atl rest' hmeta
    have hp := readPatch_P P rest' [] hrest' nofun
    rw [hpatch] at hp
    rcases List.mem_cons.1 hc with rfl | hc
    · exact ⟨hp.1, hmP⟩
    · exact ih hp.2 (hrec ▸ hc)

/-- whatever holds of the raw lines of the file holds of every patch line and every metavariable line of every change -/
theorem split_lines (P : Line → Prop) (u : Uni) (content : Bytes) (h : ∀ l ∈ rawLines content, P l) :
    ∀ c ∈ (split u content).1, (∀ l ∈ c.patch, P l) ∧ (∀ l ∈ c.metaL, P l) := by
  intro c hc
  have hatt : ∀ x ∈ attachComments (rawLines content) [], P x.1 := fun x hx =>
    h x.1 (List.mem_filter.1 (attachComments_fst _ [] ▸ List.mem_map_of_mem hx)).1
  unfold split at hc
  simp only [apply_ite Prod.fst, ite_self] at hc
  exact readProgram_P P u _ _ _ hatt c hc

/-- every patch line and every metavariable line of every change `Sec.split` returns is a slice of the file -/
theorem split_lines_slices (u : Uni) (content : Bytes) :
    ∀ c ∈ (split u content).1, (∀ l ∈ c.patch, Slice content l) ∧ (∀ l ∈ c.metaL, Slice content l) :=
  split_lines _ u content (rawLines_slice content)

/-- **From the bytes of the patch to the two versions of every change.** Whatever the patch file holds: for every change
that sectioning finds in it, each entry of the '-' version and of the '+' version of its body points at the bytes of the
patch file which the version repeats at the entry's offset, up to the newline that ends the line in the version. -/
theorem versions_of_every_change_map_back (u : Uni) (content : Bytes) :
    ∀ c ∈ (split u content).1, MapsBack content (splitPatch c.patch).1 ∧ MapsBack content (splitPatch c.patch).2 :=
  fun c hc => splitPatch_maps_back content c.patch (split_lines_slices u content c hc).1

theorem version_lines (u : Uni) (content : Bytes) (c : Change) (hc : c ∈ (split u content).1) (m : Bool) :
    ∀ l' ∈ c.patch.filterMap (sideLine m), LineOf content l' := fun l' h =>
  let ⟨l, hl, hl'⟩ := List.mem_filterMap.1 h
  sideLine_line content m l l' ((split_lines _ u content (rawLines_line content) c hc).1 l hl) hl'

/-- **A byte of a line of a version is reported where the line's text stands in the patch file, moved on by its index.**
(`AddLineColumnInfo` at the start of every line: the entry of the line itself is the last one at or before the byte.) -/
theorem positionIn_line (content : Bytes) (l1 l2 : List Line) (l : Line) (k : Nat) (hk : k ≤ l.text.length) :
    (build (l1 ++ l :: l2)).positionIn content (size l1 + k) =
      ((position content l.off).1, (position content l.off).2 + k) := by
  rw [build_eq]
  unfold Version.positionIn
  simp only [lps_append, lps, Nat.zero_add]
  -- the entry of `l` itself passes the filter, none behind it does: whatever passes in front, it is the last
  have h2 : (lps (size l1 + l.text.length + 1) l2).filter (fun lp => decide (lp.off ≤ size l1 + k)) = [] := by
    rw [List.filter_eq_nil_iff]
    intro lp hlp
    obtain ⟨_, _, _, _, rfl⟩ := mem_lps l2 _ lp hlp
    simp only [decide_eq_true_eq]; omega
  simp only [List.filter_append, List.filter_cons, Nat.le_add_right, decide_true, ↓reduceIte, h2, List.getLast?_append,
    List.getLast?_singleton, Option.some_or, Nat.add_sub_cancel_left]

/-- **A context line stands at one place.** A line of a change's body that starts with neither '-' nor '+' belongs to both
versions, and every byte of it - an elision written on it, for one - is reported at the same line and column of the patch
file in the '-' version and in the '+' version, whatever '-' and '+' lines precede it. (`connectDots` pairs the elisions of
the two sides by these places: an elision on a context line is paired with itself.) -/
theorem context_line_stands_at_one_place (content : Bytes) (a b : List Line) (l : Line) (k : Nat)
    (hm : sideLine true l = some l) (hp : sideLine false l = some l) (hk : k ≤ l.text.length) :
    let v := splitPatch (a ++ l :: b)
    v.1.positionIn content (size (a.filterMap (sideLine true)) + k) =
      v.2.positionIn content (size (a.filterMap (sideLine false)) + k) := by
  simp only [splitPatch, version_around _ a b l l hm, version_around _ a b l l hp]
  rw [positionIn_line content _ _ l k hk, positionIn_line content _ _ l k hk]

/-- **Every byte of a version is reported where it stands in the patch file.** For any patch file, any change found in it
and either version `m` of its body: the byte with index `k` of the text that the body line `l` contributes is reported
(`token.File.Position` under the registered line entries) at the line and column that the same byte has in the patch
file itself. Diagnostics about the code of a patch, and the places of its elisions, are in the user's coordinates. -/
theorem version_byte_reported_where_it_stands (u : Uni) (content : Bytes) (c : Change) (hc : c ∈ (split u content).1)
    (m : Bool) (a b : List Line) (l l' : Line) (hbody : c.patch = a ++ l :: b) (hl : sideLine m l = some l')
    (k : Nat) (hk : k ≤ l'.text.length) :
    (build (a.filterMap (sideLine m) ++ l' :: b.filterMap (sideLine m))).positionIn content
        (size (a.filterMap (sideLine m)) + k) = position content (l'.off + k) := by
  rw [positionIn_line content _ _ l' k hk, position_line content l' ?_ k hk]
  exact version_lines u content c hc m l' (by rw [hbody, version_around m a b l l' hl]; simp)

/-- a byte of a version that is no newline is a byte of the text of its line, hence of the file -/
theorem version_byte (content : Bytes) (l1 l2 : List Line) (l : Line) (hl : Slice content l) (k : Nat)
    (hk : k ≤ l.text.length) (b : UInt8) (hb : (flat (l1 ++ l :: l2))[size l1 + k]? = some b) (hne : b ≠ nl) :
    k + 1 ≤ l.text.length ∧ content[l.off + k]? = some b := by
  rw [flat_line] at hb
  rcases Nat.lt_or_eq_of_le hk with hlt | rfl
  · rw [List.getElem?_append_left hlt] at hb
    exact ⟨hlt, (hl k hlt).trans hb⟩
  · simp at hb
    exact absurd hb.symm hne

/-- **Three dots in a version are three dots of the patch file, and that is where they are reported.** For any patch
file, any change found in it and either version `m` of its body: if the version holds `...` at offset `s`, then the place
reported for `s` is the line and column of an offset `p` of the patch file at which the file holds `...` too. -/
theorem dots_of_a_version_are_dots_of_the_file (u : Uni) (content : Bytes) (c : Change) (hc : c ∈ (split u content).1)
    (m : Bool) (s : Nat)
    (h0 : (build (c.patch.filterMap (sideLine m))).contents[s]? = some 46)
    (h1 : (build (c.patch.filterMap (sideLine m))).contents[s + 1]? = some 46)
    (h2 : (build (c.patch.filterMap (sideLine m))).contents[s + 2]? = some 46) :
    ∃ p, (build (c.patch.filterMap (sideLine m))).positionIn content s = position content p ∧
      content[p]? = some 46 ∧ content[p + 1]? = some 46 ∧ content[p + 2]? = some 46 := by
  have hls := version_lines u content c hc m
  generalize c.patch.filterMap (sideLine m) = ls at *
  rw [build_eq] at h0 h1 h2
  simp only at h0 h1 h2
  obtain ⟨l1, l, l2, k, rfl, hk, rfl⟩ := offset_split ls s (List.getElem?_eq_some_iff.1 h0).1
  have hl := hls l (by simp)
  -- the three dots lie in the text of `l`: none of them is its newline
  have hd : (46 : UInt8) ≠ nl := by decide
  obtain ⟨hk1, c0⟩ := version_byte content l1 l2 l hl.1 k hk 46 h0 hd
  obtain ⟨hk2, c1⟩ := version_byte content l1 l2 l hl.1 (k + 1) hk1 46 h1 hd
  obtain ⟨_, c2⟩ := version_byte content l1 l2 l hl.1 (k + 2) hk2 46 h2 hd
  exact ⟨l.off + k, by rw [positionIn_line content l1 l2 l k hk, position_line content l hl k hk], c0, c1, c2⟩

end Gopatch.Sec
