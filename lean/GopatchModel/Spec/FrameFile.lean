import GopatchModel.Spec.Frame
/-
  Spec/FrameFile.lean — the frame of a whole change on a file: after the replacement loop the
  nodes built by the replacer get fresh identities (`renumV`); they all sit inside slots of
  the matched sites, so with those slots blanked the renumbered tree is still the tree before.
-/
namespace Gopatch

mutual
/-- nodes without identity (built by a replacement, not yet numbered) occur only inside slots of the set `P`;
`q` tells which elements are in the set when the value is a list field of its parent -/
def FreshUnder (P : Slots) (q : Option Nat → Bool) : V → Prop
  | .iface _ v => FreshUnder P noq v
  | .slice _ vs => FreshElems P q 0 vs
  | .ptr _ id fs => id ≠ 0 ∧ FreshFields P id 0 fs
  | _ => True
def FreshElems (P : Slots) (q : Option Nat → Bool) : Nat → List V → Prop
  | _, [] => True
  | j, x :: xs => (q (some j) = true ∨ FreshUnder P noq x) ∧ FreshElems P q (j + 1) xs
/-- the fields of node `id` from field number `k` on: a field wholly in the set is free -/
def FreshFields (P : Slots) (id : Nat) : Nat → List V → Prop
  | _, [] => True
  | k, v :: vs => (P id k none = true ∨ FreshUnder P (P id k) v) ∧ FreshFields P id (k + 1) vs
end

section
variable (P : Slots)
theorem freshUnder_iface (q : Option Nat → Bool) (i : String) (v : V) : FreshUnder P q (.iface i v) = FreshUnder P noq v := rfl
theorem freshUnder_slice (q : Option Nat → Bool) (e : String) (vs : List V) :
    FreshUnder P q (.slice e vs) = FreshElems P q 0 vs := rfl
theorem freshUnder_ptr (q : Option Nat → Bool) (t : String) (id : Nat) (fs : List V) :
    FreshUnder P q (.ptr t id fs) = (id ≠ 0 ∧ FreshFields P id 0 fs) := rfl
theorem freshElems_cons (q : Option Nat → Bool) (j : Nat) (x : V) (xs : List V) :
    FreshElems P q j (x :: xs) = ((q (some j) = true ∨ FreshUnder P noq x) ∧ FreshElems P q (j + 1) xs) := rfl
theorem freshFields_cons (id k : Nat) (v : V) (vs : List V) :
    FreshFields P id k (v :: vs) = ((P id k none = true ∨ FreshUnder P (P id k) v) ∧ FreshFields P id (k + 1) vs) := rfl
end

mutual
/-- **Numbering the new nodes changes nothing outside the slots.** -/
theorem renumbering_keeps_frame (P : Slots) (v : V) (n : Nat) (h : FreshUnder P noq v) :
    maskP P (renumV v n).1 = maskP P v := by
  match v, h with
  | .iface i v, h => exact congrArg (V.iface i) (renumbering_keeps_frame P v n h)
  | .slice e vs, h =>
    have ih := renumE_masked P noq 0 vs n h
    rw [blankElems_noq, blankElems_noq] at ih
    exact congrArg (V.slice e) ih
  | .ptr t id fs, h =>
    rw [freshUnder_ptr] at h
    rw [renumV_ptr, if_neg (by simpa using h.1), if_neg (by simpa using h.1), maskP_ptr, maskP_ptr,
      renumF_masked P id 0 fs n h.2]
  | .pos _ _, _ | .str _, _ | .int _, _ | .bool _, _ | .nilP _, _ | .nilI _, _ | .nilS _, _ => rfl
theorem renumE_masked (P : Slots) (q : Option Nat → Bool) : ∀ (j : Nat) (xs : List V) (n : Nat), FreshElems P q j xs →
    blankElems q j (maskPs P (renumVs xs n).1) = blankElems q j (maskPs P xs)
  | _, [], n, _ => rfl
  | j, x :: xs, n, h => by
    rw [freshElems_cons] at h
    simp only [renumVs_cons, maskPs_cons, blankElems, renumE_masked P q (j + 1) xs _ h.2]
    split
    · rfl
    · next hq => rw [renumbering_keeps_frame P x n (h.1.resolve_left hq)]
theorem renumF_masked (P : Slots) (id : Nat) : ∀ (k : Nat) (vs : List V) (n : Nat), FreshFields P id k vs →
    maskFields P id k (renumVs vs n).1 = maskFields P id k vs
  | _, [], n, _ => rfl
  | k, v :: vs, n, h => by
    rw [freshFields_cons] at h
    rw [renumVs_cons, maskFields_cons, maskFields_cons, renumF_masked P id (k + 1) vs _ h.2]
    congr 1
    rcases h.1 with hq | hv
    · simp [blankP, hq]
    · cases v with
      | slice e xs =>
        -- a list field: some of its elements may be in the set
        simp only [renumV_slice, maskP_slice, blankP, renumE_masked P (P id k) 0 xs n hv]
      | _ =>
        -- not a list: the condition on it does not look at `P id k`
        refine congrArg (blankP (P id k)) (renumbering_keeps_frame P _ n ?_)
        exact hv
end

mutual
/-- a tree in which every node has an identity satisfies the condition for every set -/
theorem fresh_of_noZero (P : Slots) : ∀ (v : V) (q : Option Nat → Bool), hasId 0 v = false → FreshUnder P q v
  | .iface i v, q, h => fresh_of_noZero P v noq h
  | .slice e vs, q, h => freshE_of_noZero P q 0 vs h
  | .ptr t id fs, q, h => by
    rw [hasId_ptr, Bool.or_eq_false_iff] at h
    exact ⟨by simpa using h.1, freshF_of_noZero P id 0 fs h.2⟩
  | .pos _ _, _, _ | .str _, _, _ | .int _, _, _ | .bool _, _, _ | .nilP _, _, _ | .nilI _, _, _ | .nilS _, _, _ => trivial
theorem freshE_of_noZero (P : Slots) (q : Option Nat → Bool) : ∀ (j : Nat) (xs : List V), hasIdL 0 xs = false → FreshElems P q j xs
  | _, [], _ => trivial
  | j, x :: xs, h => by
    rw [hasIdL_cons, Bool.or_eq_false_iff] at h
    exact ⟨Or.inr (fresh_of_noZero P x noq h.1), freshE_of_noZero P q (j + 1) xs h.2⟩
theorem freshF_of_noZero (P : Slots) (id : Nat) : ∀ (k : Nat) (vs : List V), hasIdL 0 vs = false → FreshFields P id k vs
  | _, [], _ => trivial
  | k, v :: vs, h => by
    rw [hasIdL_cons, Bool.or_eq_false_iff] at h
    exact ⟨Or.inr (fresh_of_noZero P v _ h.1), freshF_of_noZero P id (k + 1) vs h.2⟩
end

mutual
/-- the condition speaks of the blanked tree only: it says that all nodes left in it have an identity -/
theorem freshUnder_iff (P : Slots) : ∀ (v : V) (q : Option Nat → Bool), q none = false →
    (FreshUnder P q v ↔ hasId 0 (blankP q (maskP P v)) = false)
  | .iface i v, q, hq => by
      have ih := freshUnder_iff P v noq rfl
      rw [blankP_noq] at ih
      simpa [freshUnder_iface, blankP, hq, maskP_iface, hasId_iface] using ih
  | .slice e vs, q, hq => by
      simpa [freshUnder_slice, blankP, hq, maskP_slice, hasId_slice] using freshElems_iff P q 0 vs
  | .ptr t id fs, q, hq => by
      simp [freshUnder_ptr, blankP, hq, maskP_ptr, hasId_ptr, freshFields_iff P id 0 fs]
  | .pos _ _, q, hq | .str _, q, hq | .int _, q, hq | .bool _, q, hq | .nilP _, q, hq | .nilI _, q, hq | .nilS _, q, hq => by
      simp [FreshUnder, blankP, hq, maskP, hasId]
theorem freshElems_iff (P : Slots) (q : Option Nat → Bool) : ∀ (j : Nat) (xs : List V),
    FreshElems P q j xs ↔ hasIdL 0 (blankElems q j (maskPs P xs)) = false
  | _, [] => by simp [FreshElems, blankElems, maskPs_nil, hasIdL]
  | j, x :: xs => by
      have ih := freshUnder_iff P x noq rfl
      rw [blankP_noq] at ih
      simp only [freshElems_cons, maskPs_cons, blankElems, hasIdL_cons, Bool.or_eq_false_iff, freshElems_iff P q (j + 1) xs, ih]
      cases q (some j) <;> simp [hole, hasId]
theorem freshFields_iff (P : Slots) (id : Nat) : ∀ (k : Nat) (vs : List V),
    FreshFields P id k vs ↔ hasIdL 0 (maskFields P id k vs) = false
  | _, [] => by simp [FreshFields, maskFields_nil, hasIdL]
  | k, v :: vs => by
      simp only [freshFields_cons, maskFields_cons, hasIdL_cons, Bool.or_eq_false_iff, freshFields_iff P id (k + 1) vs]
      cases hq : P id k none
      · simp [freshUnder_iff P v (P id k) hq]
      · simp [blankP, hq, hole, hasId]
end

/-- so it passes from a tree to every tree that is the same once blanked -/
theorem fresh_of_mask_eq (P : Slots) (v w : V) (h : maskP P v = maskP P w) (hw : FreshUnder P noq w) : FreshUnder P noq v :=
  (freshUnder_iff P v noq rfl).2 (h ▸ (freshUnder_iff P w noq rfl).1 hw)

theorem setE_fresh (P : Slots) (pid fld : Nat) (idx : Option Nat) (nv : V) (hp : P pid fld idx = true) (q : Option Nat → Bool) :
    ∀ (j : Nat) (xs : List V), FreshElems P q j xs → FreshElems P q j (setVs pid fld idx nv xs) := by
  intro j xs h
  rw [freshElems_iff] at h ⊢
  rwa [sets_in_slots P pid fld idx nv hp]
theorem setF_fresh (P : Slots) (pid fld : Nat) (idx : Option Nat) (nv : V) (hp : P pid fld idx = true) (id : Nat) :
    ∀ (k : Nat) (vs : List V), FreshFields P id k vs → FreshFields P id k (setVs pid fld idx nv vs) := by
  intro k vs h
  rw [freshFields_iff] at h ⊢
  rwa [setf_in_slots P pid fld idx nv hp]

/-- **The frame of the replacement loop and the numbering after it**: a tree in which every node has an identity, the loop over
the matched sites, then fresh identities for what the replacer built — with the slots of the sites blanked, still the tree before. -/
theorem sites_then_numbering (c : Change) (assoc : List (Nat × Nat)) (sites : List Site) (tree tree' : V) (n : Nat)
    (hz : hasId 0 tree = false) (h : applySites c assoc sites tree = .ok tree') :
    maskP (slotsOf sites) (renumV tree' n).1 = maskP (slotsOf sites) tree := by
  have hm := applySites_in_slots c assoc (slotsOf sites) sites tree tree' (slotsOf_mem sites) h
  -- the loop left the blanked tree alone, so its result still has its unnumbered nodes inside the slots only
  rw [renumbering_keeps_frame _ tree' n (fresh_of_mask_eq _ _ _ hm (fresh_of_noZero _ tree noq hz)), hm]

end Gopatch
