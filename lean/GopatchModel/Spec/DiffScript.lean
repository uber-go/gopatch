import GopatchModel.AstDiff
/-
  Spec/DiffScript.lean — what `diff.Difference` returns is an edit script: read from the origin of the comparison
  grid it ends at the far corner, so it accounts for both lists completely, and its identities stand on cells that
  compare equal — whatever the comparison function says and whether or not the search budget ran out.  One
  invariant carries this through `path.connect`, the runs of identities, the two zig-zag searches and the rounds:
  the script of the forward path is such a script from the origin to where the path stands, the script of the
  reverse path one from where it stands to the far corner.  That `connect` arrives at its target is a matter of
  coordinates alone, the same in both directions (`Within`).
-/
namespace Gopatch.AD

/-- elements of the first list the script consumes -/
def lenX : List Ed → Nat
  | [] => 0
  | .id :: es => lenX es + 1
  | .md :: es => lenX es + 1
  | .ux :: es => lenX es + 1
  | .uy :: es => lenX es
/-- elements of the second list the script consumes -/
def lenY : List Ed → Nat
  | [] => 0
  | .id :: es => lenY es + 1
  | .md :: es => lenY es + 1
  | .ux :: es => lenY es
  | .uy :: es => lenY es + 1

theorem lenX_append : ∀ (a b : List Ed), lenX (a ++ b) = lenX a + lenX b
  | [], b => by simp [lenX]
  | t :: a, b => by cases t <;> simp [lenX, lenX_append a b, Nat.add_right_comm]
theorem lenY_append : ∀ (a b : List Ed), lenY (a ++ b) = lenY a + lenY b
  | [], b => by simp [lenY]
  | t :: a, b => by cases t <;> simp [lenY, lenY_append a b, Nat.add_right_comm]
theorem len_single (t : Ed) : lenX [t] ≤ 1 ∧ lenY [t] ≤ 1 ∧ 1 ≤ lenX [t] + lenY [t] := by
  cases t <;> simp [lenX, lenY]

/-- reading the script from cell `(x, y)`: every identity stands on a cell that compares equal -/
def IdsEqual (f : Int → Int → Res) : List Ed → Int → Int → Prop
  | [], _, _ => True
  | .id :: es, x, y => (f x y).equal = true ∧ IdsEqual f es (x + 1) (y + 1)
  | .md :: es, x, y => IdsEqual f es (x + 1) (y + 1)
  | .ux :: es, x, y => IdsEqual f es (x + 1) y
  | .uy :: es, x, y => IdsEqual f es x (y + 1)

theorem IdsEqual_append (f : Int → Int → Res) : ∀ (a b : List Ed) (x y : Int),
    IdsEqual f (a ++ b) x y ↔ IdsEqual f a x y ∧ IdsEqual f b (x + lenX a) (y + lenY a)
  | [], b, x, y => by simp [IdsEqual, lenX, lenY]
  | t :: a, b, x, y => by
    cases t <;> simp [IdsEqual, lenX, lenY, IdsEqual_append f a b, Int.add_assoc, Int.add_comm 1, and_assoc]

theorem IdsEqual_shift (f : Int → Int → Res) (a b : Int) : ∀ (es : List Ed) (x y : Int),
    IdsEqual (fun i j => f (a + i) (b + j)) es x y ↔ IdsEqual f es (a + x) (b + y)
  | [], _, _ => by simp [IdsEqual]
  | t :: es, x, y => by cases t <;> simp [IdsEqual, IdsEqual_shift f a b es, Int.add_assoc]

/-- read from cell `(x, y)` the script ends at cell `(x', y')`, and every identity on the way stands on a cell that
compares equal: what it is to be an edit script between two stretches of the lists -/
def Script (f : Int → Int → Res) (es : List Ed) (x y x' y' : Int) : Prop :=
  x' = x + lenX es ∧ y' = y + lenY es ∧ IdsEqual f es x y

theorem Script.nil (f : Int → Int → Res) (x y : Int) : Script f [] x y x y := by
  simp [Script, lenX, lenY, IdsEqual]

theorem Script.single (f : Int → Int → Res) (t : Ed) {x y x' y' : Int} (hx : x' = x + lenX [t]) (hy : y' = y + lenY [t])
    (ht : t = .id → (f x y).equal = true) : Script f [t] x y x' y' := by
  refine ⟨hx, hy, ?_⟩
  cases t with
  | id => exact ⟨ht rfl, trivial⟩
  | _ => trivial

theorem Script.append {f : Int → Int → Res} {a b : List Ed} {x y x' y' x'' y'' : Int}
    (ha : Script f a x y x' y') (hb : Script f b x' y' x'' y'') : Script f (a ++ b) x y x'' y'' := by
  obtain ⟨rfl, rfl, ia⟩ := ha
  obtain ⟨rfl, rfl, ib⟩ := hb
  refine ⟨?_, ?_, (IdsEqual_append f a b x y).2 ⟨ia, ib⟩⟩
  · rw [lenX_append]; omega
  · rw [lenY_append]; omega

theorem Path.app_eq (p : Path) (t : Ed) :
    p.app t = { dir := p.dir, x := p.x + p.dir * lenX [t], y := p.y + p.dir * lenY [t], es := t :: p.es } := by
  cases t <;> simp [Path.app, lenX, lenY]

/-- a forward path: its script, read from the origin, is an edit script up to where the path stands -/
def Fwd (f : Int → Int → Res) (p : Path) : Prop := p.dir = 1 ∧ Script f p.es.reverse 0 0 p.x p.y
/-- a reverse path: its script is an edit script from where the path stands to the far corner -/
def Rev (f : Int → Int → Res) (nx ny : Nat) (p : Path) : Prop := p.dir = -1 ∧ Script f p.es p.x p.y nx ny

theorem Fwd.app {f : Int → Int → Res} {p : Path} (h : Fwd f p) (t : Ed) (ht : t = .id → (f p.x p.y).equal = true) :
    Fwd f (p.app t) := by
  rw [Path.app_eq, Fwd, h.1]
  simp only [List.reverse_cons, Int.one_mul, true_and]
  exact h.2.append (.single f t rfl rfl ht)

theorem Rev.app {f : Int → Int → Res} {nx ny : Nat} {p : Path} (h : Rev f nx ny p) (t : Ed)
    (ht : t = .id → (f (p.x - 1) (p.y - 1)).equal = true) : Rev f nx ny (p.app t) := by
  rw [Path.app_eq, Rev, h.1]
  dsimp only
  refine ⟨rfl, Script.append (a := [t]) (.single f t (by omega) (by omega) ?_) h.2⟩
  rintro rfl
  simpa [lenX, lenY, Int.sub_eq_add_neg] using ht rfl

/-- how `connect` chooses its edit: an identity only when the cell compares equal -/
theorem pick_id {c s b : Prop} [Decidable c] [Decidable s] [Decidable b] {u v : Ed} (hu : u ≠ .id) (hv : v ≠ .id)
    (h : (if c then Ed.id else if s then Ed.md else if b then u else v) = .id) : c := by
  by_cases hc : c
  · exact hc
  · rw [if_neg hc] at h
    split at h
    · cases h
    · split at h
      · exact absurd h hu
      · exact absurd h hv

theorem connectFwd_sound (f : Int → Int → Res) (fuel : Nat) (p : Path) (dx dy : Int) :
    Fwd f p → Fwd f (connectFwd f fuel p dx dy) := by
  fun_induction connectFwd f fuel p dx dy
  case case1 | case5 => exact id
  case case2 ih => exact fun h => ih (h.app _ (pick_id (by decide) (by decide)))
  case case3 ih => exact fun h => ih (h.app .ux nofun)
  case case4 ih => exact fun h => ih (h.app .uy nofun)

theorem connectRev_sound (f : Int → Int → Res) (nx ny : Nat) (fuel : Nat) (p : Path) (dx dy : Int) :
    Rev f nx ny p → Rev f nx ny (connectRev f fuel p dx dy) := by
  fun_induction connectRev f fuel p dx dy
  case case1 | case5 => exact id
  case case2 ih => exact fun h => ih (h.app _ (pick_id (by decide) (by decide)))
  case case3 ih => exact fun h => ih (h.app .ux nofun)
  case case4 ih => exact fun h => ih (h.app .uy nofun)

/-- the path moves in direction `d` (1 or -1), is not past the target `(dx, dy)` on either list, and within `n` edits of it -/
def Within (d : Int) (p : Path) (dx dy : Int) (n : Nat) : Prop :=
  (d = 1 ∨ d = -1) ∧ p.dir = d ∧ 0 ≤ d * (dx - p.x) ∧ 0 ≤ d * (dy - p.y) ∧ d * (dx - p.x) + d * (dy - p.y) ≤ n

/-- an edit that consumes an element only of a list on which the path is short of the target brings it one nearer -/
theorem Within.app {d : Int} {p : Path} {dx dy : Int} {n : Nat} (h : Within d p dx dy (n + 1)) (t : Ed)
    (h1 : lenX [t] = 1 → p.x ≠ dx) (h2 : lenY [t] = 1 → p.y ≠ dy) : Within d (p.app t) dx dy n := by
  obtain ⟨hd, hp, hx, hy, hn⟩ := h
  have hl := len_single t
  refine ⟨hd, ?_⟩
  rw [Path.app_eq, hp]
  rcases hd with rfl | rfl <;> simp only [true_and] <;> omega

theorem Within.here {d : Int} {p : Path} {dx dy : Int} {n : Nat} (h : Within d p dx dy n)
    (h0 : d * (dx - p.x) + d * (dy - p.y) ≤ 0) : p.x = dx ∧ p.y = dy := by
  obtain ⟨hd, -, hx, hy, -⟩ := h
  rcases hd with rfl | rfl <;> omega

theorem connectFwd_reach (f : Int → Int → Res) (fuel : Nat) (p : Path) (dx dy : Int) :
    Within 1 p dx dy fuel → (connectFwd f fuel p dx dy).x = dx ∧ (connectFwd f fuel p dx dy).y = dy := by
  fun_induction connectFwd f fuel p dx dy
  case case1 => exact fun h => h.here h.2.2.2.2  -- no fuel: within 0 edits of the target
  case case2 c _ t ih =>  -- short of the target on both lists
    simp only [Bool.and_eq_true, decide_eq_true_eq] at c
    exact fun h => ih (h.app t (fun _ => by omega) (fun _ => by omega))
  case case3 c ih => exact fun h => ih (h.app .ux (fun _ => by omega) nofun)
  case case4 c ih => exact fun h => ih (h.app .uy nofun (fun _ => by omega))
  case case5 => exact fun h => h.here (by omega)  -- short on neither list

theorem connectRev_reach (f : Int → Int → Res) (fuel : Nat) (p : Path) (dx dy : Int) :
    Within (-1) p dx dy fuel → (connectRev f fuel p dx dy).x = dx ∧ (connectRev f fuel p dx dy).y = dy := by
  fun_induction connectRev f fuel p dx dy
  case case1 => exact fun h => h.here h.2.2.2.2
  case case2 c _ t ih =>
    simp only [Bool.and_eq_true, decide_eq_true_eq] at c
    exact fun h => ih (h.app t (fun _ => by omega) (fun _ => by omega))
  case case3 c ih => exact fun h => ih (h.app .ux (fun _ => by omega) nofun)
  case case4 c ih => exact fun h => ih (h.app .uy nofun (fun _ => by omega))
  case case5 => exact fun h => h.here (by omega)

/-- what the searches preserve: both paths sound, the forward one not past the reverse one -/
def Between (f : Int → Int → Res) (nx ny : Nat) (fwd rev : Path) : Prop :=
  Fwd f fwd ∧ Rev f nx ny rev ∧ fwd.x ≤ rev.x ∧ fwd.y ≤ rev.y

theorem Between.bounds {f : Int → Int → Res} {nx ny : Nat} {fwd rev : Path} (h : Between f nx ny fwd rev) :
    0 ≤ fwd.x ∧ 0 ≤ fwd.y ∧ rev.x ≤ nx ∧ rev.y ≤ ny := by
  obtain ⟨⟨-, hfx, hfy, -⟩, ⟨-, hrx, hry, -⟩, -, -⟩ := h
  omega

theorem Between.fwd_id {f : Int → Int → Res} {nx ny : Nat} {fwd rev : Path} (h : Between f nx ny fwd rev)
    (hx : fwd.x < rev.x) (hy : fwd.y < rev.y) (he : (f fwd.x fwd.y).equal = true) : Between f nx ny (fwd.app .id) rev := by
  obtain ⟨hf, hr, -, -⟩ := h
  refine ⟨hf.app .id (fun _ => he), hr, ?_, ?_⟩
  · show fwd.x + fwd.dir ≤ rev.x
    rw [hf.1]; omega
  · show fwd.y + fwd.dir ≤ rev.y
    rw [hf.1]; omega

theorem Between.rev_id {f : Int → Int → Res} {nx ny : Nat} {fwd rev : Path} (h : Between f nx ny fwd rev)
    (hx : fwd.x < rev.x) (hy : fwd.y < rev.y) (he : (f (rev.x - 1) (rev.y - 1)).equal = true) :
    Between f nx ny fwd (rev.app .id) := by
  obtain ⟨hf, hr, -, -⟩ := h
  refine ⟨hf, hr.app .id (fun _ => he), ?_, ?_⟩
  · show fwd.x ≤ rev.x + rev.dir
    rw [hr.1]; omega
  · show fwd.y ≤ rev.y + rev.dir
    rw [hr.1]; omega

theorem runFwd_inv (f : Int → Int → Res) (nx ny : Nat) (fuel : Nat) (fwd rev : Path) : Between f nx ny fwd rev →
    Between f nx ny (runFwd f fuel fwd rev) rev := by
  fun_induction runFwd f fuel fwd rev
  case case2 c he ih =>
    simp only [Bool.and_eq_true, decide_eq_true_eq] at c
    exact fun h => ih (h.fwd_id c.1 c.2 he)
  case case1 | case3 | case4 => exact id

theorem runRev_inv (f : Int → Int → Res) (nx ny : Nat) (fuel : Nat) (fwd rev : Path) : Between f nx ny fwd rev →
    Between f nx ny fwd (runRev f fuel fwd rev) := by
  fun_induction runRev f fuel fwd rev
  case case2 c he ih =>
    simp only [Bool.and_eq_true, decide_eq_true_eq] at c
    exact fun h => ih (h.rev_id c.1 c.2 he)
  case case1 | case3 | case4 => exact id

theorem fwdSearch_inv (f : Int → Int → Res) (nx ny big : Nat) (hbig : nx + ny ≤ big) (fuel : Nat) (s1 s2 : Bool) (i : Nat) (s : DS) :
    Between f nx ny s.fwd s.rev → Between f nx ny (fwdSearch f big fuel s1 s2 i s).fwd (fwdSearch f big fuel s1 s2 i s).rev := by
  fun_induction fwdSearch f big fuel s1 s2 i s
  case case1 | case2 => exact id  -- no fuel; the search has stopped
  case case3 ih | case4 ih | case6 ih => exact ih  -- on to the next cell, the paths as they are
  case case5 s _ _ px py c1 c2 heq _ _ =>  -- an equal cell: `connect` reaches it, an identity is appended, the run follows
    intro h
    simp only [Bool.or_eq_true, decide_eq_true_eq, not_or, Int.not_le, Int.not_lt] at c1 c2
    have hb := h.bounds
    obtain ⟨hf, hr, -, -⟩ := h
    obtain ⟨hcx, hcy⟩ := connectFwd_reach f big s.fwd px py ⟨.inl rfl, hf.1, by omega, by omega, by omega⟩
    have hbc : Between f nx ny (connectFwd f big s.fwd px py) s.rev :=
      ⟨connectFwd_sound f big s.fwd px py hf, hr, by omega, by omega⟩
    exact runFwd_inv f nx ny big _ s.rev (hbc.fwd_id (by omega) (by omega) (by rw [hcx, hcy]; exact heq))

theorem revSearch_inv (f : Int → Int → Res) (nx ny big : Nat) (hbig : nx + ny ≤ big) (fuel : Nat) (s1 s2 : Bool) (i : Nat) (s : DS) :
    Between f nx ny s.fwd s.rev → Between f nx ny (revSearch f big fuel s1 s2 i s).fwd (revSearch f big fuel s1 s2 i s).rev := by
  fun_induction revSearch f big fuel s1 s2 i s
  case case1 | case2 => exact id
  case case3 ih | case4 ih | case6 ih => exact ih
  case case5 s _ _ px py c1 c2 heq _ _ =>
    intro h
    simp only [Bool.or_eq_true, decide_eq_true_eq, not_or, Int.not_le, Int.not_lt] at c1 c2
    have hb := h.bounds
    obtain ⟨hf, hr, -, -⟩ := h
    obtain ⟨hcx, hcy⟩ := connectRev_reach f big s.rev px py ⟨.inr rfl, hr.1, by omega, by omega, by omega⟩
    have hbc : Between f nx ny s.fwd (connectRev f big s.rev px py) :=
      ⟨hf, connectRev_sound f nx ny big s.rev px py hr, by omega, by omega⟩
    exact runRev_inv f nx ny big s.fwd _ (hbc.rev_id (by omega) (by omega) (by rw [hcx, hcy]; exact heq))

theorem rounds_inv (f : Int → Int → Res) (nx ny big : Nat) (hbig : nx + ny ≤ big) (fuel : Nat) (s : DS) :
    Between f nx ny s.fwd s.rev → Between f nx ny (rounds f big fuel s).fwd (rounds f big fuel s).rev := by
  fun_induction rounds f big fuel s
  case case1 | case2 => exact id  -- no fuel; done before the round
  -- each half of a round is a search and then a step of its frontier, which leaves the paths where they are
  case case3 s _ _ sb _ =>  -- done after the forward half
    intro h
    simp only [sb]
    split <;> exact fwdSearch_inv f nx ny big hbig big false false 0 s h
  case case4 s _ _ sb _ _ sd ih =>  -- both halves, then the next round
    intro h
    have hb : Between f nx ny sb.fwd sb.rev := by
      simp only [sb]
      split <;> exact fwdSearch_inv f nx ny big hbig big false false 0 s h
    apply ih
    simp only [sd]
    split <;> exact revSearch_inv f nx ny big hbig big false false 0 sb hb

theorem foldl_app_es : ∀ (l : List Ed) (p : Path), (l.foldl (fun p t => p.app t) p).es = l.reverse ++ p.es
  | [], p => rfl
  | t :: l, p => by rw [List.foldl_cons, foldl_app_es l, Path.app_eq]; simp

/-- **`diff.Difference` returns an edit script**: read from the origin it ends at the far corner `(nx, ny)`, and it has its
identities on cells that compare equal — whatever the comparison function says, and whether or not the search budget ran out -/
theorem difference_script (nx ny : Nat) (f : Int → Int → Res) : Script f (difference nx ny f).1 0 0 nx ny := by
  unfold difference
  simp only []
  generalize hbig : 8 * (nx + ny) + 32 = big
  generalize hs : rounds f big big _ = s
  have hb : Between f nx ny s.fwd s.rev := hs ▸ rounds_inv f nx ny big (by omega) big _
    ⟨⟨rfl, .nil f 0 0⟩, ⟨rfl, .nil f nx ny⟩, Int.natCast_nonneg nx, Int.natCast_nonneg ny⟩
  have hg := hb.bounds
  obtain ⟨hf, hr, hx, hy⟩ := hb
  -- the last `connect` joins the forward path to the reverse one, whose edits are then appended
  have hreach := connectFwd_reach f big s.fwd s.rev.x s.rev.y ⟨.inl rfl, hf.1, by omega, by omega, by omega⟩
  have hc := (connectFwd_sound f big s.fwd s.rev.x s.rev.y hf).2
  rw [hreach.1, hreach.2] at hc
  rw [foldl_app_es, List.reverse_append, List.reverse_reverse]
  exact hc.append hr.2

theorem difference_len (nx ny : Nat) (f : Int → Int → Res) :
    lenX (difference nx ny f).1 = nx ∧ lenY (difference nx ny f).1 = ny := by
  obtain ⟨hx, hy, _⟩ := difference_script nx ny f
  omega

theorem difference_ids (nx ny : Nat) (f : Int → Int → Res) : IdsEqual f (difference nx ny f).1 0 0 :=
  (difference_script nx ny f).2.2

end Gopatch.AD
