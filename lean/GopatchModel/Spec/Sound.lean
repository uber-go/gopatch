import GopatchModel.Spec.Run
/-
  Spec/Sound.lean — what every successful match guarantees, by induction over derivations.  A property of
  data stores that every kind of recording preserves still holds afterwards (`Run.inv`); the bindings made before are
  such a property (`Mono`: bindings are only ever added); and under any substitution that agrees with the final
  bindings the matched code is an instance of the pattern (`Run.inst`): the matcher is sound for the declarative
  instance relation.
-/
namespace Gopatch

/-- `P` survives everything the matcher can record -/
structure PushInv (mt : Meta) (P : Data → Prop) : Prop where
  pos : ∀ d k, P d → P (d.pushPos k)
  dots : ∀ d k run, P d → P (d.pushDots k run)
  mv : ∀ d name g k, P d → mt.look name = some k → kindOK k g = true → g.isNil = false → d.lookMv name = none →
    P (d.pushMv name g)
  loop : ∀ d k t' bi gs gb, P d → bodyIdxOf t' = some bi → gs[bi]? = some gb →
    P (d.pushFor k { ty := t', bodyIdx := bi, fields := gs })

theorem Run.inv {mt : Meta} {P : Data → Prop} (hP : PushInv mt P) {j d d'} (h : Run mt j d d') : P d → P d' := by
  induction h with
  | leaf hl h =>
      intro hd
      rcases (matchV_leaf hl h).1 with rfl | ⟨k, rfl⟩
      · exact hd
      · exact hP.pos _ k hd
  | metavar hk h =>
      intro hd
      obtain ⟨hok, hnil, ⟨c, _, _, rfl⟩ | ⟨hnone, rfl⟩⟩ := matchMetavar_some.1 h
      · exact hd
      · exact hP.mv _ _ _ _ hd hk hok hnil hnone
  | forDots _ hbi hgb _ ih => exact fun hd => ih (hP.loop _ _ _ _ _ _ hd hbi hgb)
  | dots _ _ ih => exact fun hd => ih (hP.dots _ _ _ hd)
  | cons _ _ ih₁ ih₂ => exact fun hd => ih₂ (ih₁ hd)
  | elem _ _ _ ih₁ ih₂ => exact fun hd => ih₂ (ih₁ hd)
  | sliceEmptyNil | ignored | nil | seqNil => exact id
  | iface _ ih | sliceDots _ _ ih | sliceDotsNil _ _ ih | slice _ _ ih | ptr _ _ _ _ ih | here _ ih | there _ ih => exact ih

theorem matchV_inv {mt : Meta} {P : Data → Prop} (hP : PushInv mt P) : ∀ (p g : V) (d d' : Data), matchV mt p g d = some d' → P d → P d' :=
  fun p g d d' h => (matchV_run mt p g d d' h).inv hP
theorem matchSeq_inv {mt : Meta} {P : Data → Prop} (hP : PushInv mt P) (e : String) : ∀ (ps gs : List V) (d d' : Data), matchSeq mt e ps gs d = some d' → P d → P d' :=
  fun ps gs d d' h => (matchSeq_run mt e ps gs d d' h).inv hP
theorem matchNth_inv {mt : Meta} {P : Data → Prop} (hP : PushInv mt P) : ∀ (ps : List V) (i : Nat) (g : V) (d d' : Data), matchNth mt ps i g d = some d' → P d → P d' :=
  fun ps i g d d' h => (matchNth_run mt ps i g d d' h).inv hP

/-- bindings are only ever added -/
def Mono (d d' : Data) : Prop := ∀ n c, d.lookMv n = some c → d'.lookMv n = some c

theorem Ext.mono {d d' : Data} {σ : Subst} (h : Ext d' σ) (m : Mono d d') : Ext d σ := fun n c hc => h n c (m n c hc)
theorem Ext.self (d : Data) : Ext d d.mv := fun _ _ h => h

theorem lookMv_pushMv (d : Data) (name n : String) (g : V) :
    (d.pushMv name g).lookMv n = if n = name then some g else d.lookMv n := by
  simp only [Data.lookMv, Data.pushMv, List.lookup_cons]
  by_cases h : n = name
  · simp [h]
  · rw [if_neg h, beq_eq_false_iff_ne.2 h]

/-- what holds of every binding still does after one more, if it holds of that one -/
theorem forall_lookMv_pushMv {d : Data} {name : String} {g : V} {P : String → V → Prop} (hg : P name g)
    (h : ∀ n v, d.lookMv n = some v → P n v) : ∀ n v, (d.pushMv name g).lookMv n = some v → P n v := by
  intro n v hnv
  rw [lookMv_pushMv] at hnv
  split at hnv
  · rename_i hn
    cases hnv
    exact hn ▸ hg
  · exact h n v hnv

/-- a metavariable is bound only while it has no binding yet, so the earlier bindings stay -/
theorem mono_pushInv (mt : Meta) (d₀ : Data) : PushInv mt (Mono d₀) where
  pos := fun _ _ h => h
  dots := fun _ _ _ h => h
  loop := fun _ _ _ _ _ _ h _ _ => h
  mv := by
    intro d name g _ h _ _ _ hnone n c hc
    rw [lookMv_pushMv]
    split
    · rename_i hn
      rw [← hn, h n c hc] at hnone
      cases hnone
    · exact h n c hc

mutual
theorem eqvM_refl : ∀ v, eqvM v v = true
  | .pos _ _ | .str _ | .int _ | .bool _ => by simp [eqvM]
  | .nilP _ | .nilI _ => by simp [eqvM, V.isNil]
  | .nilS e => by
      unfold eqvM
      by_cases h : dotsElem e = true <;> simp [h, V.isNil]
  | .iface _ v => by unfold eqvM; exact eqvM_refl v
  | .slice _ vs => by unfold eqvM; exact eqvMs_refl vs
  | .ptr t _ fs => by unfold eqvM; simp [eqvMs_refl fs]
theorem eqvMs_refl : ∀ vs, eqvMs vs vs = true
  | [] => by simp [eqvMs]
  | v :: vs => by simp [eqvMs, eqvM_refl v, eqvMs_refl vs]
end

/-- what a successful (sub)match guarantees -/
def Good (mt : Meta) (d d' : Data) (P : Subst → Prop) : Prop := Mono d d' ∧ ∀ σ, Ext d' σ → P σ

def Job.Inst (mt : Meta) (σ : Subst) : Job → Prop
  | .val p g => Gopatch.Inst mt σ p g
  | .list ps gs => InstList mt σ ps gs
  | .seq e ps gs => InstSeq mt σ e ps gs
  | .nth ps i g => InstNth mt σ ps i g

section
variable {mt : Meta} {j : Job} {d d' : Data}

theorem Run.mono (h : Run mt j d d') : Mono d d' := h.inv (mono_pushInv mt d) fun _ _ h => h

theorem Run.inst {σ : Subst} (h : Run mt j d d') : Ext d' σ → j.Inst mt σ := by
  induction h with
  | leaf hl h => exact fun _ => (matchV_leaf hl h).2 σ
  | iface _ ih => exact fun hσ => .iface _ _ _ _ (ih hσ)
  | sliceDots hd _ ih => exact fun hσ => .sliceDots _ _ _ _ hd (ih hσ)
  | sliceDotsNil hd _ ih => exact fun hσ => .sliceDotsNil _ _ _ hd (ih hσ)
  | slice hd _ ih => exact fun hσ => .slice _ _ _ _ hd (ih hσ)
  | sliceEmptyNil hd => exact fun _ => .sliceEmptyNil _ _ hd
  | ignored hi => exact fun _ => .ignoredPtr _ _ _ _ hi
  | metavar hk h =>
      intro hσ
      obtain ⟨hok, hnil, ⟨c, hl, he, rfl⟩ | ⟨_, rfl⟩⟩ := matchMetavar_some.1 h
      · exact .metavar _ _ _ _ c hk hok hnil (hσ _ _ hl) he
      · exact .metavar _ _ _ _ _ hk hok hnil (hσ _ _ (by simp [lookMv_pushMv])) (eqvM_refl _)
  | forDots hk hbi hgb _ ih => exact fun hσ => .forDots _ _ _ _ _ _ _ _ _ hk hbi hgb (ih hσ)
  | ptr _ hn hf _ ih => exact fun hσ => .ptr _ _ _ _ _ hn hf (ih hσ)
  | nil => exact fun _ => .nil
  | cons _ hs ih ihs => exact fun hσ => .cons _ _ _ _ (ih (hσ.mono hs.mono)) (ihs hσ)
  | seqNil => exact fun _ => .nil _
  | dots hk _ ih => exact fun hσ => .dots _ _ _ _ _ _ hk (ih hσ)
  | elem hk _ hs ih ihs => exact fun hσ => .elem _ _ _ _ _ hk (ih (hσ.mono hs.mono)) (ihs hσ)
  | here _ ih => exact fun hσ => .here _ _ _ (ih hσ)
  | there _ ih => exact fun hσ => .there _ _ _ _ (ih hσ)

theorem Run.sound (r : Run mt j d d') : Mono d d' ∧ ∀ σ, Ext d' σ → j.Inst mt σ := ⟨r.mono, fun _ => r.inst⟩

end

theorem matchV_sound (mt : Meta) : ∀ (p g : V) (d d' : Data), matchV mt p g d = some d' →
    Mono d d' ∧ ∀ σ, Ext d' σ → Inst mt σ p g :=
  fun p g d d' h => (matchV_run mt p g d d' h).sound
theorem matchSeq_sound' (mt : Meta) (e : String) : ∀ (ps gs : List V) (d d' : Data), matchSeq mt e ps gs d = some d' →
    Mono d d' ∧ ∀ σ, Ext d' σ → InstSeq mt σ e ps gs :=
  fun ps gs d d' h => (matchSeq_run mt e ps gs d d' h).sound
theorem matchNth_sound (mt : Meta) : ∀ (ps : List V) (i : Nat) (g : V) (d d' : Data), matchNth mt ps i g d = some d' →
    Mono d d' ∧ ∀ σ, Ext d' σ → InstNth mt σ ps i g :=
  fun ps i g d d' h => (matchNth_run mt ps i g d d' h).sound

end Gopatch
