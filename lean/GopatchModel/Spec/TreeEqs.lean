import GopatchModel.FileM
/-
  Spec/TreeEqs.lean — the defining equations of the tree operations of FileM that the frame modules rewrite with
  (`setV`, `hasId`, `renumV`; the two congruence cases of `setV` are used by unfolding), each stated once;
  `setField` as `modifyAt` of what happens to the one slot.
-/
namespace Gopatch

section
variable (pid fld : Nat) (idx : Option Nat) (nv : V)
theorem setV_ptr (t : String) (id : Nat) (fs : List V) :
    setV pid fld idx nv (.ptr t id fs) =
      if id == pid then .ptr t id (setField (setVs pid fld idx nv fs) fld idx nv) else .ptr t id (setVs pid fld idx nv fs) := rfl
theorem setVs_cons (v : V) (vs : List V) :
    setVs pid fld idx nv (v :: vs) = setV pid fld idx nv v :: setVs pid fld idx nv vs := rfl
end

theorem setVs_eq_map (pid fld : Nat) (idx : Option Nat) (nv : V) : ∀ vs, setVs pid fld idx nv vs = vs.map (setV pid fld idx nv)
  | [] => rfl
  | v :: vs => by rw [setVs_cons, setVs_eq_map pid fld idx nv vs, List.map_cons]

/-- what `setField` does to the slot -/
def setSlot (idx : Option Nat) (nv : V) (slot : V) : V :=
  match idx with
  | none => wrapFor slot nv
  | some i => match slot with
      | .slice e vs => .slice e (modifyAt (fun o => wrapFor o nv) vs i)
      | s => s

theorem setField_eq (fs : List V) (fld : Nat) (idx : Option Nat) (nv : V) :
    setField fs fld idx nv = modifyAt (setSlot idx nv) fs fld := rfl

theorem hasId_iface (pid : Nat) (i : String) (v : V) : hasId pid (.iface i v) = hasId pid v := rfl
theorem hasId_slice (pid : Nat) (e : String) (vs : List V) : hasId pid (.slice e vs) = hasIdL pid vs := rfl
theorem hasId_ptr (pid : Nat) (t : String) (id : Nat) (fs : List V) :
    hasId pid (.ptr t id fs) = (id == pid || hasIdL pid fs) := rfl
theorem hasIdL_cons (pid : Nat) (v : V) (vs : List V) : hasIdL pid (v :: vs) = (hasId pid v || hasIdL pid vs) := rfl

theorem renumV_iface (i : String) (v : V) (n : Nat) : (renumV (.iface i v) n).1 = .iface i (renumV v n).1 := rfl
theorem renumV_slice (e : String) (vs : List V) (n : Nat) : (renumV (.slice e vs) n).1 = .slice e (renumVs vs n).1 := rfl
theorem renumV_ptr (t : String) (id : Nat) (fs : List V) (n : Nat) :
    (renumV (.ptr t id fs) n).1 = .ptr t (if id == 0 then n else id) (renumVs fs (if id == 0 then n + 1 else n)).1 := by
  rw [renumV]
  split <;> rfl
theorem renumVs_cons (v : V) (vs : List V) (n : Nat) :
    (renumVs (v :: vs) n).1 = (renumV v n).1 :: (renumVs vs (renumV v n).2).1 := rfl

end Gopatch
