import GopatchModel.Spec.DiffScript
/-
  Spec/Align.lean — `alignSlices` over any comparison matrix.  It returns an edit script too: the gaps are scripts
  of `diff.Difference`, the anchors identities on cells that `findEqual` found equal, so an element gets the fate
  "identical to element j" only on an equal cell of the matrix (`alignSlices_same_equal`).  Conversely, when the
  only equal cells are those of a strictly increasing partial pairing of old with new elements (no identical
  twins), and no more than 63 new elements stand before the first partner and between the partners of two
  consecutive pairs (the look-ahead of the anchoring), every paired element gets the fate "identical to its
  partner" (`alignSlices_anchors`), for lists of any two lengths.  Both, and the diagonal case of
  Spec/AstDiffSame, are instances of the one induction over the loop (`alignLoop_rule`).
-/
namespace Gopatch.AD

theorem findEqual_sound (m : List (List Res)) (i mlen fuel j k : Nat) : findEqual m i mlen fuel j = some k →
    j ≤ k ∧ k < mlen ∧ (lookup m (i : Int) (k : Int)).equal = true := by
  fun_induction findEqual m i mlen fuel j
  case case2 hj he => exact fun h => Option.some.inj h ▸ ⟨Nat.le_refl _, hj, he⟩
  case case3 ih => exact fun h => (ih h).imp_left Nat.le_of_succ_le
  case case1 | case4 => exact nofun

theorem findEqual_none (m : List (List Res)) (i mlen fuel j : Nat)
    (hno : ∀ k, j ≤ k → k < mlen → (lookup m (i : Int) (k : Int)).equal = false) : findEqual m i mlen fuel j = none :=
  Option.eq_none_iff_forall_ne_some.2 fun k hk => by
    obtain ⟨hjk, hkm, he⟩ := findEqual_sound m i mlen fuel j k hk
    rw [hno k hjk hkm] at he
    cases he

theorem findEqual_at (m : List (List Res)) (i k mlen : Nat) (hk : k < mlen)
    (he : (lookup m (i : Int) (k : Int)).equal = true) (fuel j : Nat) : j ≤ k → k - j < fuel →
    (∀ t, j ≤ t → t < k → (lookup m (i : Int) (t : Int)).equal = false) → findEqual m i mlen fuel j = some k := by
  fun_induction findEqual m i mlen fuel j
  case case1 | case4 => omega
  case case2 j _ hej =>
    intro hjk _ hno
    obtain rfl : j = k := Decidable.byContradiction fun hne => by
      rw [hno j (Nat.le_refl _) (by omega)] at hej
      cases hej
    rfl
  case case3 j _ hej ih =>
    intro hjk hf hno
    have : j ≠ k := fun e => hej (e ▸ he)
    exact ih (by omega) (by omega) (fun t ht => hno t (by omega))

theorem findEqual_diag (m : List (List Res)) (i mlen : Nat) (hi : i < mlen)
    (he : (lookup m (i : Int) (i : Int)).equal = true) : ∀ (fuel j : Nat), j ≤ i → i - j < fuel →
    (∀ k, j ≤ k → k < i → (lookup m (i : Int) (k : Int)).equal = false) → findEqual m i mlen fuel j = some i :=
  findEqual_at m i i mlen hi he

theorem fates_length : ∀ (es : List Ed) (j : Nat), (fates es j).length = lenX es
  | [], _ => rfl
  | t :: es, j => by cases t <;> simp [fates, lenX, fates_length es]

theorem fates_append : ∀ (a b : List Ed) (j : Nat), fates (a ++ b) j = fates a j ++ fates b (j + lenY a)
  | [], b, j => by simp [fates, lenY]
  | t :: a, b, j => by cases t <;> simp [fates, lenY, fates_append a b, Nat.add_assoc, Nat.add_comm 1]

theorem fates_append_left (es g : List Ed) (j : Nat) {t : Nat} (ht : t < lenX es) : (fates (es ++ g) j)[t]? = (fates es j)[t]? := by
  rw [fates_append, List.getElem?_append_left (by rw [fates_length]; exact ht)]

theorem fates_append_id (es : List Ed) (j : Nat) : (fates (es ++ [Ed.id]) j)[lenX es]? = some (.same (j + lenY es)) := by
  rw [fates_append, List.getElem?_append_right (by rw [fates_length]; exact Nat.le_refl _), fates_length, Nat.sub_self]
  rfl

theorem gap_script (m : List (List Res)) (fi fj ti tj : Nat) (hf : fi ≤ fj) (ht : ti ≤ tj) :
    Script (lookup m) (gap m fi fj ti tj).1 fi ti fj tj := by
  obtain ⟨hx, hy, hids⟩ := difference_script (fj - fi) (tj - ti) (fun i j => lookup m ((fi : Int) + i) ((ti : Int) + j))
  rw [IdsEqual_shift (lookup m) (fi : Int) (ti : Int)] at hids
  unfold gap
  exact ⟨by omega, by omega, by simpa using hids⟩

/-- **The loop of `alignSlices`, once.**  A property of its state — the old element `i` it stands at, the old and new elements
`a`, `b` its script `es` accounts for, the flag — that holds at the start and survives an anchor and a skipped element holds
when the loop has seen all `n` elements; what `alignSlices` returns is that script and the gap to the far corner. -/
theorem alignLoop_rule (m : List (List Res)) (n mlen : Nat) (Inv : Nat → Nat → Nat → List Ed → Bool → Prop)
    (anchor : ∀ i a b k es ex, i < n → Inv i a b es ex → findEqual m i mlen lookahead b = some k →
      Inv (i + 1) (i + 1) (k + 1) (es ++ (gap m a i b k).1 ++ [Ed.id]) (ex || (gap m a i b k).2))
    (skip : ∀ i a b es ex, i < n → Inv i a b es ex → findEqual m i mlen lookahead b = none → Inv (i + 1) a b es ex)
    (start : Inv 0 0 0 [] false) :
    ∃ a b es ex, Inv n a b es ex ∧ alignSlices m n mlen = (es ++ (gap m a n b mlen).1, ex || (gap m a n b mlen).2) := by
  -- the loop keeps its two counters of new elements, `j` and `ti`, equal: both are `b`; its fuel suffices
  have loop : ∀ (fuel i a b : Nat) (es : List Ed) (ex : Bool), i ≤ n → n + 1 ≤ fuel + i → Inv i a b es ex →
      ∃ a' b' es' ex', Inv n a' b' es' ex' ∧
        alignLoop m n mlen fuel i b a b es ex = (es' ++ (gap m a' n b' mlen).1, ex' || (gap m a' n b' mlen).2) := by
    intro fuel
    induction fuel with
    | zero => omega
    | succ fuel ih =>
      intro i a b es ex hi hfuel h
      rw [alignLoop]
      split
      · obtain rfl : i = n := by omega
        exact ⟨a, b, es, ex, h, rfl⟩
      · split
        · rename_i k hk
          exact ih (i + 1) (i + 1) (k + 1) _ _ (by omega) (by omega) (anchor i a b k es ex (by omega) h hk)
        · rename_i hk
          exact ih (i + 1) a b es ex (by omega) (by omega) (skip i a b es ex (by omega) h hk)
  exact loop (n + 1) 0 0 0 [] false (Nat.zero_le _) (Nat.le_refl _) start

/-- **`alignSlices` returns an edit script** from the origin to `(n, mlen)` with its identities on equal cells: the script
built so far is one up to `(a, b)`, an anchor adds a gap and an identity on the cell that `findEqual` found equal -/
theorem alignSlices_script (m : List (List Res)) (n mlen : Nat) : Script (lookup m) (alignSlices m n mlen).1 0 0 n mlen := by
  obtain ⟨a, b, es, ex, ⟨han, hbm, hs⟩, heq⟩ := alignLoop_rule m n mlen
    (fun i a b es _ => a ≤ i ∧ b ≤ mlen ∧ Script (lookup m) es 0 0 a b)
    (fun i a b k es ex hi ⟨hai, hbm, hs⟩ hk => by
      obtain ⟨hbk, hkm, heq⟩ := findEqual_sound m i mlen lookahead b k hk
      exact ⟨Nat.le_refl _, hkm, (hs.append (gap_script m a i b k hai hbk)).append (.single _ .id rfl rfl fun _ => heq)⟩)
    (fun i a b es ex hi ⟨hai, hbm, hs⟩ _ => ⟨by omega, hbm, hs⟩)
    ⟨Nat.le_refl _, Nat.zero_le _, .nil _ 0 0⟩
  rw [heq]
  exact hs.append (gap_script m a n b mlen han hbm)

theorem fates_same_equal (f : Int → Int → Res) : ∀ (es : List Ed) (x y i j : Nat), IdsEqual f es (x : Int) (y : Int) →
    (fates es y)[i]? = some (.same j) → (f ((x + i : Nat) : Int) (j : Int)).equal = true
  | [], _, _, _, _, _, h => nomatch h
  | .uy :: es, x, y, i, j, hids, h => fates_same_equal f es x (y + 1) i j hids h
  | .id :: es, x, y, 0, j, hids, h => by
    cases h
    exact hids.1
  | .id :: es, x, y, i + 1, j, hids, h => Nat.succ_add_eq_add_succ x i ▸ fates_same_equal f es (x + 1) (y + 1) i j hids.2 h
  | .md :: es, x, y, i + 1, j, hids, h => Nat.succ_add_eq_add_succ x i ▸ fates_same_equal f es (x + 1) (y + 1) i j hids h
  | .ux :: es, x, y, i + 1, j, hids, h => Nat.succ_add_eq_add_succ x i ▸ fates_same_equal f es (x + 1) y i j hids h
  | .md :: es, x, y, 0, j, _, h | .ux :: es, x, y, 0, j, _, h => nomatch h

/-- a fate "identical to element `j`" stands only on a cell of the matrix that is equal -/
theorem alignSlices_same_equal (m : List (List Res)) (n mlen i j : Nat)
    (h : (fates (alignSlices m n mlen).1 0)[i]? = some (.same j)) : (lookup m (i : Int) (j : Int)).equal = true := by
  obtain ⟨-, -, hids⟩ := alignSlices_script m n mlen
  simpa using fates_same_equal (lookup m) _ 0 0 i j hids h

/-- the loop of `alignSlices` stands at old element `i`, and its script so far accounts for `a ≤ i` old elements and `b` new
ones: the pairs of `σ` before `i` lie behind the script on both lists and are anchored in it, those from `i` on lie ahead of
it -/
def AnchoredSoFar (σ : Nat → Option Nat) (n i a b : Nat) (es : List Ed) : Prop :=
  lenX es = a ∧ lenY es = b ∧ a ≤ i ∧
  (∀ t k, t < i → σ t = some k → t < a ∧ k < b ∧ (fates es 0)[t]? = some (.same k)) ∧
  (∀ t k, i ≤ t → t < n → σ t = some k → b ≤ k)

theorem AnchoredSoFar.skip {σ : Nat → Option Nat} {n i a b : Nat} {es : List Ed} (h : AnchoredSoFar σ n i a b es)
    (hσ : σ i = none) : AnchoredSoFar σ n (i + 1) a b es := by
  obtain ⟨hx, hy, hai, hbehind, hahead⟩ := h
  refine ⟨hx, hy, by omega, fun t k ht hk => hbehind t k ?_ hk, fun t k ht => hahead t k (by omega)⟩
  have : t ≠ i := fun e => by rw [e, hσ] at hk; cases hk
  omega

/-- a new anchor: after a gap `g` that accounts for the unpaired old elements `a … i-1` and the new elements `b … k-1`,
element `i` is paired with its partner `k` -/
theorem AnchoredSoFar.anchor {σ : Nat → Option Nat} {n i a b k : Nat} {es g : List Ed} (h : AnchoredSoFar σ n i a b es)
    (hmono : ∀ t t' kt kt', t < t' → t' < n → σ t = some kt → σ t' = some kt' → kt < kt') (hi : i < n) (hσ : σ i = some k)
    (hg : lenX g = i - a ∧ lenY g = k - b) : AnchoredSoFar σ n (i + 1) (i + 1) (k + 1) (es ++ g ++ [Ed.id]) := by
  obtain ⟨hx, hy, hai, hbehind, hahead⟩ := h
  have hbk := hahead i k (Nat.le_refl _) hi hσ
  have hx' : lenX (es ++ g) = i := by rw [lenX_append, hx, hg.1]; exact Nat.add_sub_of_le hai
  have hy' : lenY (es ++ g) = k := by rw [lenY_append, hy, hg.2]; exact Nat.add_sub_of_le hbk
  refine ⟨by rw [lenX_append, hx']; rfl, by rw [lenY_append, hy']; rfl, Nat.le_refl _, fun t kt ht hkt => ?_, fun t kt ht htn hkt => ?_⟩
  · by_cases hti : t = i
    · subst hti
      rw [hσ] at hkt
      cases hkt
      have := fates_append_id (es ++ g) 0
      rw [hx', hy', Nat.zero_add] at this
      exact ⟨Nat.lt_succ_self _, Nat.lt_succ_self _, this⟩
    · obtain ⟨hta, hkb, hf⟩ := hbehind t kt (by omega) hkt
      rw [List.append_assoc, fates_append_left _ _ _ (hx ▸ hta)]
      exact ⟨by omega, by omega, hf⟩
  · have := hmono i t k kt (by omega) htn hσ hkt
    omega

/-- for any matrix `m`: when its only equal cells are those of a strictly increasing partial pairing `σ`, and no more than 63
columns lie before the first partner and between the partners of two consecutive pairs, every paired row `i` gets the fate "identical to `σ i`" -/
theorem alignSlices_anchors (m : List (List Res)) (n mlen : Nat) (σ : Nat → Option Nat)
    (hin : ∀ i k, i < n → σ i = some k → k < mlen ∧ (lookup m (i : Int) (k : Int)).equal = true)
    (hno : ∀ i k, i < n → k < mlen → σ i ≠ some k → (lookup m (i : Int) (k : Int)).equal = false)
    (hmono : ∀ i i' k k', i < i' → i' < n → σ i = some k → σ i' = some k' → k < k')
    (hrun : ∀ i k b, i < n → σ i = some k → b ≤ k → (∀ i' k', i' < i → σ i' = some k' → k' < b) → k - b < lookahead) :
    ∀ i k, i < n → σ i = some k → (fates (alignSlices m n mlen).1 0)[i]? = some (.same k) := by
  -- what the anchoring finds in row `i`, looking from `b` on, is `σ i`
  have find : ∀ i a b es, i < n → AnchoredSoFar σ n i a b es → findEqual m i mlen lookahead b = σ i := by
    rintro i a b es hi ⟨-, -, -, hbehind, hahead⟩
    cases hσ : σ i with
    | none => exact findEqual_none m i mlen lookahead b (fun k _ hk => hno i k hi hk (by rw [hσ]; nofun))
    | some k =>
      -- the partner `k` is at or after `b`, within the look-ahead, and no cell before it is equal
      obtain ⟨hkm, heq⟩ := hin i k hi hσ
      have hbk := hahead i k (Nat.le_refl _) hi hσ
      exact findEqual_at m i k mlen hkm heq lookahead b hbk
        (hrun i k b hi hσ hbk fun i' k' hi' hk' => (hbehind i' k' hi' hk').2.1)
        (fun t ht1 ht2 => hno i t hi (by omega) (by rw [hσ]; intro e; cases e; omega))
  obtain ⟨a, b, es, ex, ⟨hx, -, -, hbehind, -⟩, heq⟩ := alignLoop_rule m n mlen (fun i a b es _ => AnchoredSoFar σ n i a b es)
    (fun i a b k es ex hi h hk => h.anchor hmono hi (find i a b es hi h ▸ hk) (difference_len _ _ _))
    (fun i a b es ex hi h hk => h.skip (find i a b es hi h ▸ hk))
    ⟨rfl, rfl, Nat.le_refl _, fun _ _ h => by omega, fun _ _ _ _ _ => Nat.zero_le _⟩
  intro t k ht hk
  obtain ⟨hta, -, hf⟩ := hbehind t k ht hk
  rw [heq, fates_append_left _ _ _ (hx ▸ hta)]
  exact hf

end Gopatch.AD
