import GopatchModel.FileM
/-
  Spec/ImportsOnly.lean — making the import declarations follow a change of the import list
  (`syncImports`: what astutil.AddNamedImport / DeleteNamedImport do to the tree) touches
  import declarations only: every other declaration of the file stays where it is relative
  to the others, unchanged.
-/
namespace Gopatch

def notImport (d : V) : Bool := !isImportGenDecl d

theorem isImportGenDecl_withSpecs (d : V) (specs : List V) : isImportGenDecl (withSpecs d specs) = isImportGenDecl d := by
  unfold withSpecs
  split
  · rename_i tok _ _ _ _
    cases tok <;> simp [isImportGenDecl]
  · rfl

theorem filter_cons_import {d : V} (h : isImportGenDecl d = true) (l : List V) :
    (d :: l).filter notImport = l.filter notImport :=
  List.filter_cons_of_neg (by simp [notImport, h])

theorem addSpecs_go_others (merged : V) (hm : isImportGenDecl merged = true) (ds : List V) (seen : Bool) :
    (addSpecs.go merged ds seen).filter notImport = ds.filter notImport := by
  fun_induction addSpecs.go merged ds seen with
  | case1 => rfl
  | case2 d rest hd ih => rw [filter_cons_import hd, ih] -- a further import declaration: merged away
  | case3 d rest _ hd _ ih => rw [filter_cons_import hd, filter_cons_import hm, ih] -- the first one: `merged` in its place
  | case4 d rest seen _ ih => rw [List.filter_cons, List.filter_cons, ih] -- any other declaration

theorem addSpecs_others (added : List (Option String × String)) (ds : List V) :
    (addSpecs added ds).filter notImport = ds.filter notImport := by
  unfold addSpecs
  split
  · rfl
  · split
    · exact filter_cons_import (by simp [newImportDecl, isImportGenDecl]) ds
    · next first hfirst =>
      exact addSpecs_go_others _ ((isImportGenDecl_withSpecs first _).trans (List.find?_some hfirst)) ds false

theorem deleteSpecs_go_others (k : Option String × String) (ds : List V) (done : Bool) :
    (deleteSpecs.go k ds done).filter notImport = ds.filter notImport := by
  fun_induction deleteSpecs.go k ds done with
  | case1 => rfl
  | case2 d rest done hc ih => -- the import declaration that loses the spec
    have hd : isImportGenDecl d = true := by
      simp only [Bool.and_eq_true] at hc
      exact hc.1.2
    rw [filter_cons_import ((isImportGenDecl_withSpecs d _).trans hd), filter_cons_import hd, ih]
  | case3 d rest done _ ih => rw [List.filter_cons, List.filter_cons, ih] -- any other declaration

theorem deleteSpecs_others (gone : List (Option String × String)) (ds : List V) :
    (deleteSpecs gone ds).filter notImport = ds.filter notImport := by
  have hdrop : ∀ l : List V, (l.filter (fun d => !(isImportGenDecl d && (specsOf d).isEmpty))).filter notImport = l.filter notImport := by
    intro l
    rw [List.filter_filter]
    exact List.filter_congr (fun x _ => by cases h : isImportGenDecl x <;> simp [notImport, h])
  rw [deleteSpecs, hdrop]
  induction gone generalizing ds with
  | nil => rfl
  | cons g gs ih => rw [List.foldl_cons, ih, deleteSpecs_go_others]

/-- what `syncImports` does to the declaration list of the file -/
theorem syncDecls_others (old new : List (Option String × String)) (ds : List V) :
    (deleteSpecs (diffImports old new) (addSpecs (diffImports new old) ds)).filter notImport = ds.filter notImport := by
  rw [deleteSpecs_others, addSpecs_others]

def declsOf : V → List V
  | .ptr _ _ (_ :: _ :: _ :: .slice _ decls :: _) => decls
  | _ => []

/-- the declarations of a file other than import declarations, in order -/
def otherDecls : V → List V
  | .ptr _ _ (_ :: _ :: _ :: .slice _ decls :: _) => decls.filter notImport
  | _ => []

theorem otherDecls_eq (t : V) : otherDecls t = (declsOf t).filter notImport := by
  unfold otherDecls declsOf
  split <;> simp

/-- **Import synchronisation touches import declarations only.** -/
theorem syncImports_other_decls (tree : V) (old new : List (Option String × String)) :
    otherDecls (syncImports tree old new) = otherDecls tree := by
  unfold syncImports
  split
  · exact syncDecls_others old new _
  · rfl

end Gopatch
