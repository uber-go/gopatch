/-
  AstDiff.lean — model of internal/astdiff (snapshot values, changeFinder.Walk /
  walkStruct / walkSlice, alignSlices, nodeComparer) and of internal/diff
  (Difference, path.connect): which source regions a change is attributed to,
  and which comment associations are carried over to the next snapshot.

  A snapshot value (`astdiff.value`) is reflected as `AV`: its type name, its
  kind, whether it is an ast.Node (then with Pos/End and the comment groups
  the comment map associates with it), nil-ness, the printed basic value,
  whether the elements of a slice are nodes (`elemNode`), and
  the children (the one element of a pointer/interface, the elements of a
  slice, the fields of a struct).  Positions are token.Pos values (0 = NoPos).
-/
namespace Gopatch.AD

/-- `astdiff.Region` -/
structure Rg where
  pos : Nat
  stop : Nat
  deriving Repr, Inhabited, DecidableEq, BEq

/-- a comment group as the snapshot sees it: the (Pos, End) of its comments -/
abbrev CG := List (Nat × Nat)

inductive AV where
  | mk (ty : String) (kind : Nat) (isNode : Bool) (pos stop : Nat) (cms : List CG)
       (isNil : Bool) (payload : String) (elemNode : Bool) (kids : List AV)
  deriving Inhabited

def kPtr : Nat := 0
def kIface : Nat := 1
def kSlice : Nat := 2
def kStruct : Nat := 3
def kOther : Nat := 4

namespace AV
def ty : AV → String | .mk t _ _ _ _ _ _ _ _ _ => t
def kind : AV → Nat | .mk _ k _ _ _ _ _ _ _ _ => k
def isNode : AV → Bool | .mk _ _ n _ _ _ _ _ _ _ => n
def pos : AV → Nat | .mk _ _ _ p _ _ _ _ _ _ => p
def stop : AV → Nat | .mk _ _ _ _ e _ _ _ _ _ => e
def cms : AV → List CG | .mk _ _ _ _ _ c _ _ _ _ => c
def isNil : AV → Bool | .mk _ _ _ _ _ _ n _ _ _ => n
def payload : AV → String | .mk _ _ _ _ _ _ _ p _ _ => p
def elemNode : AV → Bool | .mk _ _ _ _ _ _ _ _ e _ => e
def kids : AV → List AV | .mk _ _ _ _ _ _ _ _ _ k => k
def withCms : AV → List CG → AV | .mk t k n p e _ nl pl en ks, c => .mk t k n p e c nl pl en ks
def withKids : AV → List AV → AV | .mk t k n p e c nl pl en _, ks => .mk t k n p e c nl pl en ks
end AV

def tyObject : String := "*ast.Object"
def tyCommentGroup : String := "*ast.CommentGroup"
def tyPos : String := "token.Pos"

/-- a token.Pos leaf carries its value in `pos`; valid = not NoPos -/
def posValid (v : AV) : Bool := v.pos != 0

/-! ### internal/diff -/

inductive Ed where
  | id | ux | uy | md
  deriving DecidableEq, Repr, Inhabited

structure Res where
  same : Nat := 0
  diff : Nat := 0
  deriving Repr, Inhabited, DecidableEq

def Res.equal (r : Res) : Bool := r.diff == 0
def Res.similar (r : Res) : Bool := r.same + 1 ≥ r.diff

structure Path where
  dir : Int
  x : Int
  y : Int
  es : List Ed          -- latest first
  deriving Inhabited

def Path.app (p : Path) (t : Ed) : Path :=
  match t with
  | .id => { p with x := p.x + p.dir, y := p.y + p.dir, es := t :: p.es }
  | .md => { p with x := p.x + p.dir, y := p.y + p.dir, es := t :: p.es }
  | .ux => { p with x := p.x + p.dir, es := t :: p.es }
  | .uy => { p with y := p.y + p.dir, es := t :: p.es }

/-- `path.connect`, forward direction -/
def connectFwd (f : Int → Int → Res) : Nat → Path → Int → Int → Path
  | 0, p, _, _ => p
  | n + 1, p, dx, dy =>
    if dx > p.x && dy > p.y then
      let r := f p.x p.y
      let t := if r.equal then Ed.id else if r.similar then Ed.md else if dx - p.x ≥ dy - p.y then Ed.ux else Ed.uy
      connectFwd f n (p.app t) dx dy
    else if dx > p.x then connectFwd f n (p.app .ux) dx dy
    else if dy > p.y then connectFwd f n (p.app .uy) dx dy
    else p

/-- `path.connect`, reverse direction -/
def connectRev (f : Int → Int → Res) : Nat → Path → Int → Int → Path
  | 0, p, _, _ => p
  | n + 1, p, dx, dy =>
    if p.x > dx && p.y > dy then
      let r := f (p.x - 1) (p.y - 1)
      let t := if r.equal then Ed.id else if r.similar then Ed.md else if p.y - dy ≥ p.x - dx then Ed.uy else Ed.ux
      connectRev f n (p.app t) dx dy
    else if p.x > dx then connectRev f n (p.app .ux) dx dy
    else if p.y > dy then connectRev f n (p.app .uy) dx dy
    else p

def zigzag (i : Nat) : Int := if i % 2 == 1 then -(((i : Int) + 1) / 2) else (i : Int) / 2

/-- the run of identities that follows a found match, forward -/
def runFwd (f : Int → Int → Res) : Nat → Path → Path → Path
  | 0, fwd, _ => fwd
  | n + 1, fwd, rev =>
    if fwd.x < rev.x && fwd.y < rev.y then
      if (f fwd.x fwd.y).equal then runFwd f n (fwd.app .id) rev else fwd
    else fwd

def runRev (f : Int → Int → Res) : Nat → Path → Path → Path
  | 0, _, rev => rev
  | n + 1, fwd, rev =>
    if fwd.x < rev.x && fwd.y < rev.y then
      if (f (rev.x - 1) (rev.y - 1)).equal then runRev f n fwd (rev.app .id) else rev
    else rev

structure DS where
  fwd : Path
  rev : Path
  ffx : Int
  ffy : Int
  rfx : Int
  rfy : Int
  budget : Nat
  exhausted : Bool := false
  deriving Inhabited

/-- the forward zig-zag search of one round -/
def fwdSearch (f : Int → Int → Res) (big : Nat) : Nat → Bool → Bool → Nat → DS → DS
  | 0, _, _, _, s => { s with exhausted := true }
  | n + 1, stop1, stop2, i, s =>
    if (stop1 && stop2) || s.budget == 0 then s else
    let z := zigzag i
    let px := s.ffx + z
    let py := s.ffy - z
    if px ≥ s.rev.x || py < s.fwd.y then fwdSearch f big n true stop2 (i + 1) s
    else if py ≥ s.rev.y || px < s.fwd.x then fwdSearch f big n stop1 true (i + 1) s
    else if (f px py).equal then
      let fwd := (connectFwd f big s.fwd px py).app .id
      let fwd := runFwd f big fwd s.rev
      { s with fwd := fwd, ffx := fwd.x, ffy := fwd.y }
    else fwdSearch f big n stop1 stop2 (i + 1) { s with budget := s.budget - 1 }

/-- the reverse zig-zag search of one round -/
def revSearch (f : Int → Int → Res) (big : Nat) : Nat → Bool → Bool → Nat → DS → DS
  | 0, _, _, _, s => { s with exhausted := true }
  | n + 1, stop1, stop2, i, s =>
    if (stop1 && stop2) || s.budget == 0 then s else
    let z := zigzag i
    let px := s.rfx - z
    let py := s.rfy + z
    if s.fwd.x ≥ px || s.rev.y < py then revSearch f big n true stop2 (i + 1) s
    else if s.fwd.y ≥ py || s.rev.x < px then revSearch f big n stop1 true (i + 1) s
    else if (f (px - 1) (py - 1)).equal then
      let rev := (connectRev f big s.rev px py).app .id
      let rev := runRev f big s.fwd rev
      { s with rev := rev, rfx := rev.x, rfy := rev.y }
    else revSearch f big n stop1 stop2 (i + 1) { s with budget := s.budget - 1 }

def dsDone (s : DS) : Bool := s.ffx ≥ s.rfx || s.ffy ≥ s.rfy || s.budget == 0

/-- the rounds of `Difference` -/
def rounds (f : Int → Int → Res) (big : Nat) : Nat → DS → DS
  | 0, s => { s with exhausted := true }
  | n + 1, s =>
    if dsDone s then s else
    let s := fwdSearch f big big false false 0 s
    let s := if s.rev.x - s.ffx ≥ s.rev.y - s.ffy then { s with ffx := s.ffx + 1 } else { s with ffy := s.ffy + 1 }
    if dsDone s then s else
    let s := revSearch f big big false false 0 s
    let s := if s.rfx - s.fwd.x ≥ s.rfy - s.fwd.y then { s with rfx := s.rfx - 1 } else { s with rfy := s.rfy - 1 }
    rounds f big n s

/-- `diff.Difference`; the Bool tells that the model ran out of fuel (never expected) -/
def difference (nx ny : Nat) (f : Int → Int → Res) : List Ed × Bool :=
  let big := 8 * (nx + ny) + 32
  let s0 : DS := { fwd := { dir := 1, x := 0, y := 0, es := [] }, rev := { dir := -1, x := nx, y := ny, es := [] },
                   ffx := 0, ffy := 0, rfx := nx, rfy := ny, budget := 4 * (nx + ny) }
  let s := rounds f big big s0
  let fwd := connectFwd f big s.fwd s.rev.x s.rev.y
  let fwd := s.rev.es.foldl (fun p t => p.app t) fwd
  (fwd.es.reverse, s.exhausted)

/-! ### nodeComparer -/

def Res.add (a b : Res) : Res := { same := a.same + b.same, diff := a.diff + b.diff }

def lookup (m : List (List Res)) (i j : Int) : Res :=
  if i < 0 || j < 0 then { diff := 2 } else
  match m[i.toNat]? with
  | some row => (row[j.toNat]?).getD { diff := 2 }
  | none => { diff := 2 }

/-- the accumulation of `nodeComparer.Walk` over the edit script of a slice -/
def accumulate (m : List (List Res)) : List Ed → Nat → Nat → Res → Res
  | [], _, _, acc => acc
  | .id :: es, i, j, acc => accumulate m es (i + 1) (j + 1) (acc.add (lookup m i j))
  | .md :: es, i, j, acc => accumulate m es (i + 1) (j + 1) (acc.add (lookup m i j))
  | .ux :: es, i, j, acc => accumulate m es (i + 1) j (acc.add { diff := 1 })
  | .uy :: es, i, j, acc => accumulate m es i (j + 1) (acc.add { diff := 1 })

mutual
/-- `compareNodes` -/
def cmp : AV → AV → Res
  | .mk ty k _ p _ _ nl pl _ kids, to =>
    if ty != to.ty then { diff := 2 }
    else if ty == tyObject then {}
    else if ty == tyPos then (if (p != 0) != posValid to then { diff := 1 } else { same := 1 })
    else if k == kPtr || k == kIface then
      (if nl || to.isNil then (if nl == to.isNil then { same := 1 } else { diff := 1 })
       else cmpElem kids to.kids)
    else if k == kSlice then
      let m := cmpRows kids to.kids
      let (es, _) := difference kids.length to.kids.length (lookup m)
      accumulate m es 0 0 {}
    else if k == kStruct then cmpFields kids to.kids
    else (if pl == to.payload then { same := 1 } else { diff := 1 })
def cmpElem : List AV → List AV → Res
  | f :: _, t :: _ => cmp f t
  | _, _ => {}
def cmpFields : List AV → List AV → Res
  | f :: fs, t :: ts => (cmp f t).add (cmpFields fs ts)
  | _, _ => {}
def cmpRows : List AV → List AV → List (List Res)
  | [], _ => []
  | f :: fs, ts => ts.map (fun t => cmp f t) :: cmpRows fs ts
end

/-! ### alignSlices -/

def lookahead : Nat := 64

/-- first `k` in `[j, min mlen (j + fuel))` with cell `(i, k)` of the matrix `m` equal; `alignLoop` passes `lookahead` as fuel -/
def findEqual (m : List (List Res)) (i : Nat) (mlen : Nat) : Nat → Nat → Option Nat
  | 0, _ => none
  | n + 1, k => if k < mlen then (if (lookup m i k).equal then some k else findEqual m i mlen n (k + 1)) else none

def gap (m : List (List Res)) (fi fj ti tj : Nat) : List Ed × Bool :=
  difference (fj - fi) (tj - ti) (fun i j => lookup m (fi + i) (ti + j))

/-- the loop of `alignSlices` over the elements of `from` -/
def alignLoop (m : List (List Res)) (n mlen : Nat) : Nat → Nat → Nat → Nat → Nat → List Ed → Bool → List Ed × Bool
  | 0, _, _, fi, ti, es, ex =>
      let (g, x) := gap m fi n ti mlen
      (es ++ g, ex || x)
  | fuel + 1, i, j, fi, ti, es, ex =>
      if i ≥ n then
        let (g, x) := gap m fi n ti mlen
        (es ++ g, ex || x)
      else match findEqual m i mlen lookahead j with
        | some k =>
            let (g, x) := gap m fi i ti k
            alignLoop m n mlen fuel (i + 1) (k + 1) (i + 1) (k + 1) (es ++ g ++ [Ed.id]) (ex || x)
        | none => alignLoop m n mlen fuel (i + 1) j fi ti es ex

def alignSlices (m : List (List Res)) (n mlen : Nat) : List Ed × Bool :=
  alignLoop m n mlen (n + 1) 0 0 0 0 [] false

/-! ### changeFinder -/

/-- `commentsFor`: the comments of the groups lying wholly before / after the node -/
def commentsFor (n : AV) : CG × CG :=
  n.cms.foldl (fun (acc : CG × CG) cg =>
    match cg.head?, cg.getLast? with
    | some first, some last =>
        let b := if last.2 ≤ n.pos then acc.1 ++ cg else acc.1
        let a := if first.1 ≥ n.stop then acc.2 ++ cg else acc.2
        (b, a)
    | _, _ => acc) ([], [])

/-- where the comments of a node stop that begin at or after the node does (at least the node's own end):
the comments that trail it, also when its end, computed from a new name, lies beyond where they begin -/
def trailEnd (n : AV) : Nat :=
  n.cms.foldl (fun acc cg =>
    match cg.head?, cg.getLast? with
    | some first, some last => if first.1 ≥ n.pos then max acc last.2 else acc
    | _, _ => acc) n.stop

/-- `starts` of walkStruct -/
def starts : Nat → List AV → List Nat
  | _, [] => []
  | lastEnd, c :: cs =>
    if c.isNode then
      c.pos :: starts (trailEnd c) cs
    else if c.ty == tyPos then
      (if c.pos != 0 then c.pos else lastEnd) :: starts lastEnd cs
    else lastEnd :: starts lastEnd cs

/-- `ends` of walkStruct, given the children paired with their starts -/
def ends (stop : Nat) : List (AV × Nat) → List Nat
  | [] => []
  | [(c, _)] => [if c.isNode then c.stop else stop]
  | (c, _) :: (c2, s2) :: rest => (if c.isNode then c.stop else s2) :: ends stop ((c2, s2) :: rest)

def fieldRegions (R : Rg) (fs : List AV) : List Rg :=
  let ss := starts R.pos fs
  let es := ends R.stop (fs.zip ss)
  (ss.zip es).map (fun p => { pos := p.1, stop := p.2 })

/-- where the region of element `n` starts before its own comments are looked at -/
def startAfter (R : Rg) (prev : Option AV) (n : AV) : Nat :=
  match prev with
  | none => R.pos
  | some pv => if (commentsFor pv).2.isEmpty then pv.stop else n.pos

/-- where the region of element `n` ends before its own comments are looked at -/
def endBefore (R : Rg) (n : AV) (next : Option AV) : Nat :=
  match next with
  | none => R.stop
  | some nx => if (commentsFor nx).1.isEmpty then nx.pos else n.stop

/-- the region of element `n` of a slice of nodes, between `prev` and `next` -/
def elemRegion (R : Rg) (prev : Option AV) (n : AV) (next : Option AV) : Rg :=
  let p := startAfter R prev n
  let e := endBefore R n next
  let (before, after) := commentsFor n
  let p := match before.getLast? with
    | some l => max p l.2
    | none => p
  let e := match after.head? with
    | some a => min e a.1
    | none => e
  { pos := p, stop := e }

def elemRegions (R : Rg) : Option AV → List AV → List Rg
  | _, [] => []
  | prev, n :: rest => elemRegion R prev n rest.head? :: elemRegions R (some n) rest

inductive Fate where
  | same (j : Nat)
  | modified (j : Nat)
  | deleted
  deriving Repr, Inhabited

def fates : List Ed → Nat → List Fate
  | [], _ => []
  | .id :: es, j => .same j :: fates es (j + 1)
  | .md :: es, j => .modified j :: fates es (j + 1)
  | .ux :: es, j => .deleted :: fates es j
  | .uy :: es, j => fates es (j + 1)

def setAt (l : List AV) (j : Nat) (v : AV) : List AV := l.set j v

/-- result of a walk: equal?, the regions reported as changed, the new snapshot value, model trouble -/
structure W where
  eq : Bool
  ch : List Rg
  to : AV
  bad : Bool := false

/-- two pointer values that point to one and the same object (the harness numbers the objects) -/
def ptrSame (k : Nat) (pl : String) (t : AV) : Bool :=
  k == kPtr && t.kind == kPtr && pl != "" && pl == t.payload

/-- `sameNode`: both values are nodes and, below the interface if there is one, the same object: a node
that was edited in place.  (The value inside an interface is never itself an interface.) -/
def sameNodeB (isn : Bool) (k : Nat) (pl : String) (kids : List AV) (t : AV) : Bool :=
  isn && t.isNode &&
  (if k == kIface && t.kind == kIface then
     match kids, t.kids with
     | a :: _, b :: _ => ptrSame a.kind a.payload b
     | _, _ => false
   else ptrSame k pl t)

mutual
/-- `changeFinder.Walk` -/
def walk (R : Rg) (src : AV) (to : AV) : W :=
  match src with
  | .mk ty k isn p _ cms nl pl en kids =>
    if ty != to.ty then { eq := false, ch := [R], to := to }
    else if ty == tyObject then { eq := true, ch := [], to := to }
    else if ty == tyCommentGroup then { eq := true, ch := [], to := to }
    else if ty == tyPos then
      (if (p != 0) != posValid to then { eq := false, ch := [R], to := to }
       else { eq := true, ch := [], to := to.withCms cms })
    else if k == kPtr || k == kIface then
      (if nl then { eq := false, ch := [], to := to }
       else if to.isNil then { eq := false, ch := [R], to := to }
       else
        let (eq, ch, ks, bad) := walkElem R kids to.kids
        let to' := to.withKids ks
        -- unchanged, or changed but one and the same node edited in place: it keeps the comments around it
        { eq := eq, ch := ch, to := if eq || sameNodeB isn k pl kids to then to'.withCms cms else to', bad := bad })
    else if k == kSlice then
      (if !en then
        (if kids.length != to.kids.length then { eq := false, ch := [R], to := to }
         else
          let (eq, ch, ks, bad) := walkPlain R kids to.kids
          let to' := to.withKids ks
          { eq := eq, ch := ch, to := if eq then to'.withCms cms else to', bad := bad })
       else
        let m := cmpRows kids to.kids
        let (es, ex) := alignSlices m kids.length to.kids.length
        let regs := elemRegions R none kids
        let (ch, ks, bad) := walkFates regs (fates es 0) kids to.kids
        let eq := es.all (· == Ed.id)
        let to' := to.withKids ks
        { eq := eq, ch := ch, to := if eq then to'.withCms cms else to', bad := bad || ex })
    else if k == kStruct then
      let (eq, ch, ks, bad) := walkFields (fieldRegions R kids) kids to.kids
      let to' := to.withKids ks
      { eq := eq, ch := ch, to := if eq then to'.withCms cms else to', bad := bad }
    else
      (if pl == to.payload then { eq := true, ch := [], to := to.withCms cms }
       else { eq := false, ch := [R], to := to })
termination_by structural src
/-- the element of a pointer or interface -/
def walkElem (R : Rg) (fs : List AV) (tl : List AV) : Bool × List Rg × List AV × Bool :=
  match fs, tl with
  | f :: _, t :: ts => let w := walk R f t; (w.eq, w.ch, w.to :: ts, w.bad)
  | _, ts => (false, [], ts, true)
termination_by structural fs
/-- the elements of a slice that does not hold nodes, pairwise under the same region -/
def walkPlain (R : Rg) (fl : List AV) (tl : List AV) : Bool × List Rg × List AV × Bool :=
  match fl, tl with
  | f :: fs, t :: ts =>
      let w := walk R f t
      let (eq, ch, ks, bad) := walkPlain R fs ts
      (w.eq && eq, w.ch ++ ch, w.to :: ks, w.bad || bad)
  | [], ts => (true, [], ts, false)
  | _ :: _, [] => (false, [], [], true)
termination_by structural fl
/-- the fields of a struct, each under its own region -/
def walkFields (rl : List Rg) (fl : List AV) (tl : List AV) : Bool × List Rg × List AV × Bool :=
  match rl, fl, tl with
  | r :: rs, f :: fs, t :: ts =>
      let w := walk r f t
      let (eq, ch, ks, bad) := walkFields rs fs ts
      (w.eq && eq, w.ch ++ ch, w.to :: ks, w.bad || bad)
  | _, [], ts => (true, [], ts, false)
  | _, _ :: _, ts => (false, [], ts, true)
termination_by structural fl
/-- the elements of a slice of nodes, each with its region and its fate in the edit script -/
def walkFates (rl : List Rg) (ftl : List Fate) (fl : List AV) (ts : List AV) : List Rg × List AV × Bool :=
  match rl, ftl, fl with
  | r :: rs, ft :: fts, f :: fs =>
      match ft with
      | .same j =>
          let ts' := match ts[j]? with
            | some t => setAt ts j (t.withCms f.cms)
            | none => ts
          let (ch, ks, bad) := walkFates rs fts fs ts'
          (ch, ks, bad || (ts[j]?).isNone)
      | .modified j =>
          (match ts[j]? with
           | some t =>
              let w := walk r f t
              let (ch, ks, bad) := walkFates rs fts fs (setAt ts j w.to)
              (w.ch ++ ch, ks, bad || w.bad)
           | none => let (ch, ks, _) := walkFates rs fts fs ts; (ch, ks, true))
      | .deleted =>
          let (ch, ks, bad) := walkFates rs fts fs ts
          (r :: ch, ks, bad)
  | _, _, [] => ([], ts, false)
  | _, _, _ :: _ => ([], ts, true)
termination_by structural fl
end

/-- `Snapshot.Diff`: walk from the root under the region of the old snapshot -/
def diff (old new : AV) : W := walk { pos := old.pos, stop := old.stop } old new

mutual
/-- the value as `snapshot(v, nil)` builds it: no comment associations -/
def strip : AV → AV
  | .mk t k n p e _ nl pl en ks => .mk t k n p e [] nl pl en (stripL ks)
def stripL : List AV → List AV
  | [] => []
  | v :: vs => strip v :: stripL vs
end

mutual
/-- number of the first value (pre-order) whose comment associations differ, if any -/
def cmsDiff : AV → AV → Nat → Option Nat × Nat
  | .mk _ _ _ _ _ c _ _ _ ks, b, n =>
    if c != b.cms then (some n, n) else cmsDiffL ks b.kids (n + 1)
def cmsDiffL : List AV → List AV → Nat → Option Nat × Nat
  | a :: as, b :: bs, n =>
      match cmsDiff a b n with
      | (some k, m) => (some k, m)
      | (none, m) => cmsDiffL as bs m
  | _, _, n => (none, n)
end

/-! ### what the driver evaluates on real snapshots: the hypotheses of the theorems of Spec/AstDiffSpec as tests, and what it
reports about the declarations of a file -/

def cgAllB (q : Nat → Bool) (cms : List CG) : Bool := cms.all (fun cg => cg.all (fun c => q c.1 && q c.2))

mutual
/-- `AllPos` of Spec/AstDiffSpec as a test: `a` for what can start a region, `c` for comments -/
def allPosB (a c : Nat → Bool) : AV → Bool
  | .mk ty _ isn p e cms _ _ en kids =>
      (!isn || (a p && a e)) && (!(ty == tyPos && p != 0) || a p) && cgAllB c cms &&
      (!en || kids.all (fun v => a v.pos && a v.stop)) && allPosLB a c kids
def allPosLB (a c : Nat → Bool) : List AV → Bool
  | [] => true
  | v :: vs => allPosB a c v && allPosLB a c vs
end

def leftOfB (lo : Nat) (p : Nat) : Bool := p ≤ lo
def atOrAfterB (hi : Nat) (p : Nat) : Bool := hi ≤ p

/-- `OneSide` of Spec/AstDiffSpec as a test -/
def oneSideB (lo hi : Nat) (r : Rg) (f : AV) : Bool :=
  (leftOfB lo r.pos && leftOfB lo r.stop && allPosB (leftOfB lo) (leftOfB lo) f) ||
  (atOrAfterB hi r.pos && allPosB (atOrAfterB hi) (fun _ => true) f)

/-- `Sep` of Spec/AstDiffSpec as a test -/
def sepB (lo hi : Nat) : List AV → List Rg → List Fate → Bool
  | f :: fs, r :: rs, ft :: fts =>
      (match ft with
       | .same _ => true
       | _ => oneSideB lo hi r f) && sepB lo hi fs rs fts
  | _, _, _ => true

/-- the extent of a node with the comments associated with it -/
def extentOf (n : AV) : Nat × Nat :=
  n.cms.foldl (fun acc cg => cg.foldl (fun a c => (min a.1 c.1, max a.2 c.2)) acc) (n.pos, n.stop)

/-- identical twins: cells off the diagonal of the comparison matrix that compare equal (the hypothesis `htwins` of
`untouched_elements_paired_with_themselves` asks for none) -/
def twins (m : List (List Res)) : Nat :=
  let rows := m.zipIdx
  rows.foldl (fun acc (row, i) => acc + ((row.zipIdx.filter (fun (r, k) => k != i && r.equal)).length)) 0

/-- the declarations of a file snapshot with their regions and fates, whether the two lists have the same length, and the
number of identical twins: `(decls, regions, fates, sameLength, twins)` -/
def declsOf (old new : AV) : Option (List AV × List Rg × List Fate × Bool × Nat) :=
  match old.kids, new.kids with
  | [fo], [fn] =>
      let regs := fieldRegions { pos := old.pos, stop := old.stop } fo.kids
      let trip := (fo.kids.zip regs).zip fn.kids
      match trip.find? (fun x => x.1.1.ty == "[]ast.Decl") with
      | some ((d, R), dn) =>
          let m := cmpRows d.kids dn.kids
          let es := (alignSlices m d.kids.length dn.kids.length).1
          some (d.kids, elemRegions R none d.kids, fates es 0, d.kids.length == dn.kids.length, twins m)
      | none => none
  | _, _ => none

mutual
/-- the start of every comment group associated with some value of the snapshot -/
def groupStarts : AV → List Nat
  | .mk _ _ _ _ _ cms _ _ _ ks => cms.filterMap (fun cg => cg.head?.map (·.1)) ++ groupStartsL ks
def groupStartsL : List AV → List Nat
  | [] => []
  | v :: vs => groupStarts v ++ groupStartsL vs
end

end Gopatch.AD
