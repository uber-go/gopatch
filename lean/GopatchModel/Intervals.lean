import GopatchModel.Engine
/-
  Intervals.lean — model of the comment filter of cleanupFilePos over the
  intervals returned by Changelog.ChangedIntervals(), an input to the filter:
  a comment is removed iff it lies wholly inside one interval that does not
  start at NoPos.  Further down `ChangedIntervals` itself: the set Changed −
  Unchanged, position by position (the external intervalset package computes
  it; the driver compares), and the tests the driver evaluates on the real
  intervals (`respects`, `soundOutB`, `strongClear`, `startsClearB`).
-/
namespace Gopatch

structure Iv where
  s : Nat
  e : Nat
  deriving Repr, Inhabited, DecidableEq

structure Comment where
  pos : Nat
  stop : Nat
  text : String
  deriving Repr, Inhabited, DecidableEq

/-- the test of cleanupFilePos for one interval `i` (`dr` in the Go source) of `Changelog.ChangedIntervals()`:
intervals that start at NoPos are skipped, a comment is removed when it lies wholly inside -/
def inside (i : Iv) (c : Comment) : Bool := i.s != 0 && i.s ≤ c.pos && c.stop ≤ i.e

def dropped (ivs : List Iv) (c : Comment) : Bool := ivs.any (fun i => inside i c)

/-- the comments left after one change (the comments of all groups as one list) -/
def filterComments (ivs : List Iv) (cs : List Comment) : List Comment :=
  cs.filter (fun c => !dropped ivs c)

/-- every changed interval starts at NoPos (and is skipped by the filter) or at or after `hi` -/
def startsClearB (hi : Nat) (ivs : List Iv) : Bool := ivs.all (fun i => i.s == 0 || decide (hi ≤ i.s))

/-- the extent of a top-level declaration: from its doc comment to the comments trailing its last line -/
structure Extent where
  s : Nat
  e : Nat
  deriving Repr, Inhabited, DecidableEq

/-- the interval does not reach into the extent (intervals starting at NoPos are ignored by the filter) -/
def clearOf (i : Iv) (x : Extent) : Bool := i.s == 0 || i.e ≤ x.s || x.e ≤ i.s

/-- what astdiff owes the comment filter: no changed interval reaches into a declaration in which nothing was rewritten -/
def respects (ivs : List Iv) (untouched : List Extent) : Bool := ivs.all (fun i => untouched.all (clearOf i))

/-- the first (interval, extent) pair that breaks `respects`, for the replay -/
def offender (ivs : List Iv) (untouched : List Extent) : Option (Iv × Extent) :=
  (ivs.flatMap (fun i => untouched.map (fun x => (i, x)))).find? (fun p => !clearOf p.1 p.2)

/-! ### `Changelog.ChangedIntervals`: the positions recorded as changed and not recorded as unchanged -/

/-- the position lies in one of the intervals (an interval with `e ≤ s` holds nothing) -/
def covers (ivs : List Iv) (p : Nat) : Bool := ivs.any (fun i => i.s ≤ p && p < i.e)

/-- the set `plus − minus` of `ChangedIntervals`, position by position -/
def changedAt (plus minus : List Iv) (p : Nat) : Bool := covers plus p && !covers minus p

/-- the interval list denotes only changed positions, each interval non-empty (tested on the intervals the real
changelog returns, position by position) -/
def soundOutB (out plus minus : List Iv) : Bool :=
  out.all (fun iv => iv.s < iv.e && (List.range' iv.s (iv.e - iv.s)).all (changedAt plus minus))

/-- the region keeps clear of the extent, with no exemption for regions that start at NoPos; an empty or inverted region
(`e ≤ s`) holds no position and is exempt -/
def strongClear (r : Iv) (x : Extent) : Bool := r.e ≤ x.s || x.e ≤ r.s || r.e ≤ r.s

/-- the boundaries at which membership can change -/
def boundaries (plus minus : List Iv) : List Nat :=
  ((plus ++ minus).flatMap (fun i => [i.s, i.e])).foldr (fun b acc => if acc.contains b then acc else b :: acc) []

def insertSorted (b : Nat) : List Nat → List Nat
  | [] => [b]
  | a :: as => if b ≤ a then b :: a :: as else a :: insertSorted b as

/-- `ChangedIntervals` as a canonical list: the maximal runs of changed positions, in order -/
def changedIntervals (plus minus : List Iv) : List Iv :=
  let bs := (boundaries plus minus).foldr insertSorted []
  let segs := (bs.zip bs.tail).filter (fun p => changedAt plus minus p.1)
  segs.foldl (fun (acc : List Iv) p =>
    match acc.getLast? with
    | some l => if l.e == p.1 then acc.dropLast ++ [{ s := l.s, e := p.2 }] else acc ++ [{ s := p.1, e := p.2 }]
    | none => [{ s := p.1, e := p.2 }]) []

mutual
/-- the value has no comment group anywhere -/
def noComments : V → Bool
  | .iface _ v => noComments v
  | .slice _ vs => noCommentsL vs
  | .ptr t _ fs => t != "ast.CommentGroup" && noCommentsL fs
  | _ => true
def noCommentsL : List V → Bool
  | [] => true
  | v :: vs => noComments v && noCommentsL vs
end

end Gopatch
