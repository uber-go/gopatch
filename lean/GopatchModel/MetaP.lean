import GopatchModel.Section
/-
  MetaP.lean — model of internal/parse/meta.go (metaParser over go/scanner
  tokens, which are an input of the model), of the offset → patch line:column
  mapping installed with AddLineColumnInfo, and of engine/meta.go:compileMeta.
-/
namespace Gopatch.Sec

structure Tok where
  off : Nat
  kind : String          -- "var" | "ident" | "," | ";" | "eof" | anything else
  text : String
  errs : List Nat        -- offsets of scanner errors reported while scanning this token
  deriving Repr, Inhabited

inductive MErr where
  | scan | expectedVar | expectedIdent | expectedSemi | unknownType | duplicate (firstOff : Nat)
  deriving Repr, DecidableEq, Inhabited

structure VarDecl where
  names : List (String × Nat)
  ty : String × Nat
  deriving Repr, Inhabited

structure PState where
  toks : List Tok           -- head = current token
  failed : Bool
  errors : List (Nat × MErr)
  deriving Inhabited

def cur (s : PState) : Tok := s.toks.head?.getD { off := 0, kind := "eof", text := "", errs := [] }

/-- `metaParser.next`: scan one more token; scanner errors fail the parser -/
def pnext (s : PState) : PState :=
  match s.toks with
  | _ :: t :: rest =>
      { toks := t :: rest, failed := s.failed || !t.errs.isEmpty,
        errors := s.errors ++ t.errs.map (fun o => (o, MErr.scan)) }
  | _ => s

def perr (s : PState) (e : MErr) : PState :=
  { s with failed := true, errors := s.errors ++ [((cur s).off, e)] }

/-- `parseIdent` (with its deferred `next`) -/
def parseIdent (s : PState) : Option (String × Nat) × PState :=
  if (cur s).kind != "ident" then (none, pnext (perr s .expectedIdent))
  else (some ((cur s).text, (cur s).off), pnext s)

/-- the `for` loop over names of `parseDecl` -/
def parseNames : Nat → PState → List (String × Nat) → Option (List (String × Nat)) × PState
  | 0, s, _ => (none, s)
  | fuel + 1, s, acc =>
      let s := pnext s            -- skip var / ,
      match parseIdent s with
      | (none, s) => (none, s)
      | (some n, s) =>
          if (cur s).kind != "," then (some (acc ++ [n]), s) else parseNames fuel s (acc ++ [n])

/-- `parseDecl` (with its deferred `next`) -/
def parseDecl (s : PState) : Option VarDecl × PState :=
  if (cur s).kind != "var" then (none, pnext (perr s .expectedVar))
  else
    match parseNames (s.toks.length + 1) s [] with
    | (none, s) => (none, pnext s)
    | (some names, s) =>
        match parseIdent s with
        | (none, s) => (none, pnext s)
        | (some ty, s) =>
            if (cur s).kind != ";" then (none, pnext (perr s .expectedSemi))
            else (some { names := names, ty := ty }, pnext s)

def parseLoop : Nat → PState → List (Option VarDecl) → List (Option VarDecl) × PState
  | 0, s, acc => (acc, s)
  | fuel + 1, s, acc =>
      if s.failed || (cur s).kind == "eof" then (acc, s)
      else
        let (d, s) := parseDecl s
        parseLoop fuel s (acc ++ [d])

/-- `parseMeta` on the token stream of the scratch buffer -/
def parseMeta (toks : List Tok) : List (Option VarDecl) × List (Nat × MErr) :=
  match toks with
  | [] => ([], [])
  | t :: _ =>
      let s0 : PState := { toks := toks, failed := !t.errs.isEmpty, errors := t.errs.map (fun o => (o, MErr.scan)) }
      let (ds, s) := parseLoop (toks.length + 1) s0 []
      (ds, s.errors)

/-- `compileMeta`: errors only (the variable map is observed through the engine stream) -/
def compileMetaErrs : List VarDecl → List (String × Nat) → List (Nat × MErr)
  | [], _ => []
  | d :: ds, seen =>
      if d.ty.1 != "identifier" && d.ty.1 != "expression" then
        (d.ty.2, MErr.unknownType) :: compileMetaErrs ds seen
      else
        let step := d.names.foldl (fun (acc : List (String × Nat) × List (Nat × MErr)) n =>
          if n.1 == "_" then acc
          else match acc.1.lookup n.1 with
            | some first => (acc.1, acc.2 ++ [(n.2, MErr.duplicate first)])
            | none => (acc.1 ++ [n], acc.2)) (seen, [])
        step.2 ++ compileMetaErrs ds step.1

/-- the offsets at which the lines start in the scratch buffer, each line followed by a newline, the first at `o` -/
def scratchStarts : Nat → List Line → List Nat
  | _, [] => []
  | o, l :: ls => o :: scratchStarts (o + l.text.length + 1) ls

/-- Scratch-buffer offset → (line, column) in the patch file. `lines` are the meta lines of
the change (offsets in the patch file); scratch line k starts at `starts[k]`. -/
def mapPos (content : Bytes) (lines : List Line) (o : Nat) : Nat × Nat :=
  let starts := scratchStarts 0 lines
  -- index of the scratch line containing o
  let k := (starts.filter (· ≤ o)).length - 1
  match lines[k]?, starts[k]? with
  | some l, some s =>
      let total := (lines.foldl (fun a x => a + x.text.length + 1) 0)
      if o < total then ((position content l.off).1, (position content l.off).2 + (o - s))
      else ((position content l.off).1 + 1, 1)
  | _, _ => (1, 1 + o)

end Gopatch.Sec
