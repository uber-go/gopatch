import GopatchModel.FileM
import GopatchModel.Spec.SplitSpec
namespace Gopatch.C13
open Gopatch.Sec

/-- '#' lines never reach the splitter's state machine: the lines it sees are exactly the
non-comment lines, in order -/
theorem comments_dropped : ∀ (ls : List Line) (acc : List Bytes),
    (attachComments ls acc).map Prod.fst = ls.filter (fun l => !isComment l.text) :=
  attachComments_fst

/-- a non-comment line takes the comment run accumulated so far and resets it: comment lines
further up never reach a later line -/
theorem noncomment_resets (p : Line) (rest : List Line) (acc : List Bytes) (hp : isComment p.text = false) :
    attachComments (p :: rest) acc = (p, acc) :: attachComments rest [] := by
  simp [attachComments, hp]

/-- the description attached to a line is exactly the run of comment lines directly above it -/
theorem description_is_run_above (h : Line) (post : List Line) (hh : isComment h.text = false) :
    ∀ (cs : List Line) (acc0 : List Bytes), (∀ c ∈ cs, isComment c.text = true) →
      attachComments (cs ++ h :: post) acc0 =
        (h, acc0 ++ cs.map (fun c => commentText c.text)) :: attachComments post [] := by
  intro cs
  induction cs with
  | nil => intro acc0 _; simp [attachComments, hh]
  | cons c cs ih =>
    intro acc0 hc
    rw [List.forall_mem_cons] at hc
    simp only [List.cons_append, attachComments, hc.1, ↓reduceIte, List.map_cons, ih _ hc.2, List.append_assoc,
      List.nil_append]

/-- the name of a change is only stored: two header lines at the same offset, under the same comments, each with a
name that is accepted, give changes that agree in everything but the name -/
theorem name_only_stored (u : Uni) (eof fuel : Nat) (h1 h2 : Line) (c1 c2 : List Bytes) (rest : List (Line × List Bytes))
    (hoff : h1.off = h2.off) (hc : c1 = c2)
    (hn1 : (readName u h1).2 = none) (hn2 : (readName u h2).2 = none) :
    ((readProgram u eof (fuel + 1) ((h1, c1) :: rest)).1.map (fun c => (c.headerOff, c.metaL, c.atOff, c.patch, c.comments))) =
    ((readProgram u eof (fuel + 1) ((h2, c2) :: rest)).1.map (fun c => (c.headerOff, c.metaL, c.atOff, c.patch, c.comments))) := by
  subst hc
  simp only [readProgram]
  cases hm : readMeta rest [] with
  | none => simp [hoff]
  | some r =>
    obtain ⟨m, atl, rest'⟩ := r
    simp [hoff]

theorem insertAsc_map (f : Nat → Nat) (hf : ∀ a b, a ≤ b ↔ f a ≤ f b) (x : Nat) :
    ∀ l, (insertAsc x l).map f = insertAsc (f x) (l.map f)
  | [] => rfl
  | y :: ys => by
      simp only [insertAsc, List.map_cons, ← hf, apply_ite (List.map f), insertAsc_map f hf x ys]

/-- sorting the '...' positions commutes with any order-preserving relabelling of patch
positions (moving lines around by inserting comment or blank lines, or re-wrapping) -/
theorem sortAsc_map (f : Nat → Nat) (hf : ∀ a b, a ≤ b ↔ f a ≤ f b) :
    ∀ l, (sortAsc l).map f = sortAsc (l.map f)
  | [] => rfl
  | x :: xs => by
      show (insertAsc x (sortAsc xs)).map f = insertAsc (f x) (sortAsc (xs.map f))
      rw [insertAsc_map f hf, sortAsc_map f hf xs]

theorem nearestBefore_map (f : Nat → Nat) (hf : ∀ a b, a ≤ b ↔ f a ≤ f b) (r : Nat) :
    ∀ (lhs : List Nat) (acc : Option Nat),
      (lhs.map f).foldl (nbStep (f r)) (acc.map f) = (lhs.foldl (nbStep r) acc).map f
  | [], acc => rfl
  | l :: ls, acc => by
      -- `← hf` turns every comparison of images into the comparison of the originals
      have hstep : nbStep (f r) (acc.map f) (f l) = (nbStep r acc l).map f := by
        cases acc <;> simp only [nbStep, Option.map_some, Option.map_none, ← hf, apply_ite (Option.map f)]
      simp only [List.map_cons, List.foldl_cons, hstep]
      exact nearestBefore_map f hf r ls (nbStep r acc l)

theorem lookup_map (f : Nat → Nat) (hf : ∀ a b, a ≤ b ↔ f a ≤ f b) (r : Nat) :
    ∀ (conns : List (Nat × Nat)), (conns.map (fun p => (f p.1, f p.2))).lookup (f r) = (conns.lookup r).map f
  | [] => rfl
  | (a, b) :: cs => by
      have hinj : (f r == f a) = (r == a) := by
        rw [Bool.eq_iff_iff, beq_iff_eq, beq_iff_eq]
        exact ⟨fun h => Nat.le_antisymm ((hf r a).2 (Nat.le_of_eq h)) ((hf a r).2 (Nat.le_of_eq h.symm)), congrArg f⟩
      simp only [List.map_cons, List.lookup_cons, hinj, lookup_map f hf r cs]
      cases r == a <;> rfl

theorem connectDotsGo_map (f : Nat → Nat) (hf : ∀ a b, a ≤ b ↔ f a ≤ f b) (lhs rs : List Nat) (conns : List (Nat × Nat)) :
    connectDotsGo (lhs.map f) (rs.map f) (conns.map (fun p => (f p.1, f p.2)))
      = (connectDotsGo lhs rs conns).map (fun p => (f p.1, f p.2)) := by
  -- both tests of the walk come out the same on the images (`hn`, `lookup_map`), so it takes the same branch
  have hn : ∀ r, nearestBefore (lhs.map f) (f r) = (nearestBefore lhs r).map f :=
    fun r => nearestBefore_map f hf r lhs none
  fun_induction connectDotsGo lhs rs conns with
  | case1 => rfl
  | case2 r _ _ hnb => simp [connectDotsGo, hn, hnb] -- no '-' elision at or before `r`: the walk stops
  | case3 r _ _ _ hnb hl => simp [connectDotsGo, hn, hnb, lookup_map f hf, hl] -- `r` is associated already: it stops
  | case4 r _ _ _ hnb hl ih => simpa [connectDotsGo, hn, hnb, lookup_map f hf, hl] using ih -- `r` gets its '-' elision

/-- **The association of '...' between the '-' and '+' sides depends on patch positions only
through their order.** For every order-preserving relabelling `f` of patch (line, column)
keys — which is what inserting or deleting comment and blank lines, naming a change, or
re-wrapping lines amounts to — the association computed from relabelled positions is the
relabelled association. -/
theorem connectDots_relabel (f : Nat → Nat) (hf : ∀ a b, a ≤ b ↔ f a ≤ f b) (lhs rhs : List Nat) :
    connectDots (lhs.map f) (rhs.map f) = (connectDots lhs rhs).map (fun p => (f p.1, f p.2)) := by
  unfold connectDots
  rw [← sortAsc_map f hf rhs]
  have := connectDotsGo_map f hf lhs (sortAsc rhs) []
  simpa using this

/-- the bytes of the two versions of a body around a '-'/'+' pair of the same text `t` -/
theorem pair_versions (a b : List Line) (o1 o2 : Nat) (t : Bytes) :
    (splitPatch (a ++ ⟨o1, minusB :: t⟩ :: ⟨o2, plusB :: t⟩ :: b)).1.contents =
      flat (a.filterMap (sideLine true)) ++ (t ++ [nl]) ++ flat (b.filterMap (sideLine true)) ∧
    (splitPatch (a ++ ⟨o1, minusB :: t⟩ :: ⟨o2, plusB :: t⟩ :: b)).2.contents =
      flat (a.filterMap (sideLine false)) ++ (t ++ [nl]) ++ flat (b.filterMap (sideLine false)) := by
  have hne : (plusB == minusB) = false := by decide
  constructor <;>
    simp [splitPatch, build_eq, List.filterMap_append, sideLine, hne, flat_append, flat]

/-- the bytes of the two versions of a body around a context line: a blank, then the text `t` (beside `pair_versions`:
the versions differ from those of the '-'/'+' pair by that one blank at the start of the line) -/
theorem context_versions (a b : List Line) (o : Nat) (t : Bytes) :
    (splitPatch (a ++ ⟨o, 32 :: t⟩ :: b)).1.contents =
      flat (a.filterMap (sideLine true)) ++ (32 :: t ++ [nl]) ++ flat (b.filterMap (sideLine true)) ∧
    (splitPatch (a ++ ⟨o, 32 :: t⟩ :: b)).2.contents =
      flat (a.filterMap (sideLine false)) ++ (32 :: t ++ [nl]) ++ flat (b.filterMap (sideLine false)) := by
  have h1 : ((32 : UInt8) == minusB) = false := by decide
  have h2 : ((32 : UInt8) == plusB) = false := by decide
  constructor <;>
    simp [splitPatch, build_eq, List.filterMap_append, sideLine, h1, h2, flat_append, flat]

end Gopatch.C13
