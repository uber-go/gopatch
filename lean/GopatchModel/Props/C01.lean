import GopatchModel.Spec.Complete
import GopatchModel.Spec.RefFile
namespace Gopatch.C01
open Gopatch

/-- **Only instances are matched.** Whenever the matcher compiled from a pattern accepts a
piece of code, that code is a syntactic instance of the pattern: the same tree up to positions
(validity only), comments and resolved objects, with one global substitution for the
metavariables (the final bindings) and some run for every elision. -/
theorem match_only_instances (mt : Meta) (p g : V) (d d' : Data) (h : matchV mt p g d = some d') :
    Inst mt d'.mv p g :=
  (matchV_run mt p g d d' h).inst (Ext.self d')

/-- The data stores of the sites recorded for a file are, in traversal order, the results of the node
matcher at the nodes of the file at which it succeeds — whatever the function, nesting depth or
syntactic position — each tried with the same incoming data. (Where a site points, its parent, field
and index, is not part of the statement.) -/
theorem sites_are_matching_nodes (c : Change) (d : Data) (id : Nat) (fs : List V) :
    (sitesFields (nodeMatch c d) id 0 fs).map (·.data) = (nodesL fs).filterMap (nodeMatch c d) :=
  sitesFields_data (nodeMatch c d) fs id 0

/-- every site of an expression / declaration pattern is an instance of the '-' pattern -/
theorem site_is_instance (c : Change) (d : Data) (id : Nat) (fs : List V) (hk : c.minus.kind ≠ "stmts")
    (s : Site) (hs : s ∈ sitesFields (nodeMatch c d) id 0 fs) :
    ∃ n ∈ nodesL fs, matchV c.mt c.minus.node n d = some s.data ∧ Inst c.mt s.data.mv c.minus.node n := by
  have hmem : s.data ∈ (sitesFields (nodeMatch c d) id 0 fs).map (·.data) := List.mem_map.2 ⟨s, hs, rfl⟩
  rw [sites_are_matching_nodes] at hmem
  obtain ⟨n, hn, hm⟩ := List.mem_filterMap.1 hmem
  have hk' : (c.minus.kind == "stmts") = false := by simpa using hk
  simp only [nodeMatch, hk', Bool.false_eq_true, ↓reduceIte] at hm
  exact ⟨n, hn, hm, match_only_instances _ _ _ _ _ hm⟩

/-- conversely the data of every node of the file that the matcher accepts are among the site data (no instance is
skipped, including instances nested inside other instances) -/
theorem matching_node_is_site (c : Change) (d d' : Data) (id : Nat) (fs : List V) (n : V)
    (hn : n ∈ nodesL fs) (hm : nodeMatch c d n = some d') :
    d' ∈ (sitesFields (nodeMatch c d) id 0 fs).map (·.data) := by
  rw [sites_are_matching_nodes]
  exact List.mem_filterMap.2 ⟨n, hn, hm⟩

/-- **Every instance is matched** (patterns without metavariables): a piece of code that is a
syntactic instance of the pattern is accepted by the matcher, whatever bindings it starts from.
With `match_only_instances` this is an equivalence. -/
theorem ground_instance_is_matched (mt : Meta) (σ : Subst) (p g : V) (hg : ground mt p = true)
    (hi : Inst mt σ p g) (d : Data) : ∃ d', matchV mt p g d = some d' :=
  matchV_complete mt σ p g hg hi d

theorem ground_match_iff_instance (mt : Meta) (p g : V) (hg : ground mt p = true) (d : Data) :
    (∃ d', matchV mt p g d = some d') ↔ ∃ σ, Inst mt σ p g :=
  ⟨fun ⟨d', h⟩ => ⟨d'.mv, match_only_instances mt p g d d' h⟩,
   fun ⟨σ, h⟩ => matchV_complete mt σ p g hg h d⟩

/-- hence a file that holds, anywhere, an instance of a metavariable-free expression or declaration pattern has a site
(the statement says the list of site data is not empty; the proof obtains the data from that very node) -/
theorem ground_instance_is_site (c : Change) (d : Data) (id : Nat) (fs : List V) (σ : Subst) (n : V)
    (hk : c.minus.kind ≠ "stmts") (hg : ground c.mt c.minus.node = true)
    (hn : n ∈ nodesL fs) (hi : Inst c.mt σ c.minus.node n) :
    ∃ d', d' ∈ (sitesFields (nodeMatch c d) id 0 fs).map (·.data) := by
  obtain ⟨d', hm⟩ := matchV_complete c.mt σ c.minus.node n hg hi d
  refine ⟨d', matching_node_is_site c d d' id fs n hn ?_⟩
  have hk' : (c.minus.kind == "stmts") = false := by simpa using hk
  simp [nodeMatch, hk', hm]

/-- The reference matcher (every choice of runs for every elision, everywhere in the pattern) accepts
only instances … -/
theorem reference_only_instances (mt : Meta) (p g : V) (d d' : Data) (h : d' ∈ allV mt p g d) :
    Inst mt d'.mv p g :=
  (allV_run mt p g d d' h).inst (Ext.self d')

/-- … and every instance: if the code is an instance under a substitution of well-typed code for the
metavariables (for any schema `sc` of the syntax tree types), the reference matcher has a result.
`isInstance` therefore decides "is a syntactic instance of the pattern". -/
theorem reference_accepts_every_instance (sc : Schema) (mt : Meta) (σ : Subst) (hσ : GoodSubst sc σ) (p g : V)
    (hi : Inst mt σ p g) (wg : wtv sc g = true) (ng : nf g = true) : isInstance mt p g Data.empty = true :=
  (isInstance_iff sc mt p g wg ng).2 ⟨σ, hσ, hi⟩

/-- both directions in one statement: on a well-typed tree in parser normal form the reference matcher has a result
**exactly when** the code is a syntactic instance of the pattern under some substitution of well-typed code -/
theorem reference_decides_instance (sc : Schema) (mt : Meta) (p g : V) (wg : wtv sc g = true) (ng : nf g = true) :
    isInstance mt p g Data.empty = true ↔ ∃ σ, GoodSubst sc σ ∧ Inst mt σ p g :=
  isInstance_iff sc mt p g wg ng

/-- what the engine's matcher accepts, the reference matcher accepts -/
theorem engine_within_reference (mt : Meta) (p g : V) (d d' : Data) (h : matchV mt p g d = some d') :
    d' ∈ allV mt p g d := matchV_sub mt p g d d' h

/-- **Every instance is matched** (patterns without elisions, repeated metavariables included): code that is
an instance under a substitution of well-typed code is accepted by the engine's matcher — a later
occurrence of a metavariable is compared with the first one, and on well-typed trees "matches the same
code" is Euclidean (`eqvM_euclid`). -/
theorem elision_free_instance_is_matched (sc : Schema) (mt : Meta) (σ : Subst) (hσ : GoodSubst sc σ) (p g : V)
    (hp : dotsFree p = true) (hi : Inst mt σ p g) (wg : wtv sc g = true) (ng : nf g = true) :
    ∃ d', matchV mt p g Data.empty = some d' := by
  obtain ⟨d', h, _⟩ := matchV_complete_nodots sc mt σ hσ p g hp hi wg ng Data.empty (fun _ _ h => nomatch h)
  exact ⟨d', h⟩

/-- at file level: an expression or declaration pattern without elisions misses no node of the file -/
theorem elision_free_pattern_misses_nothing (c : Change) (f : FileM) (hk : (c.minus.kind == "stmts") = false)
    (hp : dotsFree c.minus.node = true) : missedNodes c f = [] :=
  no_elision_nothing_missed c f hk hp

/-! A concrete instance that the engine's matcher misses (known finding F22): the pattern
`foo(bar(..., x, ...), x)` and the code `foo(bar(1, 2), 2)`.  The inner list binds `x` to the first
argument of `bar`; that choice is never reconsidered when the outer `x` turns out to be `2`. -/

def ident (s : String) : V := .iface "ast.Expr" (.ptr "ast.Ident" 0 [.pos true 0, .str s, .nilP "ast.Object"])
def lit (s : String) : V := .iface "ast.Expr" (.ptr "ast.BasicLit" 0 [.pos true 0, .int 5, .str s])
def call (f : V) (args : List V) : V :=
  .iface "ast.Expr" (.ptr "ast.CallExpr" 0 [f, .pos true 0, .slice "ast.Expr" args, .pos false 0, .pos true 0])
def dots (k : Nat) : V := .iface "ast.Expr" (.ptr "pgo.Dots" 0 [.nilI "ast.Expr", .pos true k])

def f22Meta : Meta := [("x", .expr)]
def f22Pattern : V := call (ident "foo") [call (ident "bar") [dots 1, ident "x", dots 2], ident "x"]
def f22Code : V := call (ident "foo") [call (ident "bar") [lit "1", lit "2"], lit "2"]

/-- the property's converse fails on this input: it is an instance (the reference matcher accepts it, and
by `reference_only_instances` whatever it accepts is an instance) but the engine's matcher rejects it -/
theorem nested_elision_instance_missed :
    isInstance f22Meta f22Pattern f22Code Data.empty = true ∧ matchV f22Meta f22Pattern f22Code Data.empty = none := by
  constructor <;> decide +kernel

/-- the same code with `1` as last argument is matched: the first choice happens to fit -/
example : (matchV f22Meta f22Pattern (call (ident "foo") [call (ident "bar") [lit "1", lit "2"], lit "1"]) Data.empty).isSome = true := by
  decide +kernel

/-- a different operator, token kind, channel direction (all stored as integers) -/
theorem int_differs (mt : Meta) (σ : Subst) (a b : Int) (h : Inst mt σ (.int a) (.int b)) : a = b := by
  cases h; rfl

/-- a different literal value or name -/
theorem str_differs (mt : Meta) (σ : Subst) (a b : String) (h : Inst mt σ (.str a) (.str b)) : a = b := by
  cases h; rfl

/-- presence of an optional token recorded as a position (variadic `...` of a call, alias `=` of a
type declaration, parentheses of a declaration group, the arrow of a channel type) must agree -/
theorem pos_validity_differs (mt : Meta) (σ : Subst) (v w : Bool) (k l : Nat)
    (h : Inst mt σ (.pos v k) (.pos w l)) : v = w := by
  cases h; rfl

/-- an extra or a missing element in a list without elision -/
theorem list_length_differs (mt : Meta) (σ : Subst) : ∀ (ps gs : List V), InstList mt σ ps gs → ps.length = gs.length
  | [], [], _ => rfl
  | _ :: ps, _ :: gs, h => by
      cases h with
      | cons _ _ _ _ _ ht => simp [list_length_differs mt σ ps gs ht]

/-- a node of another type (a call is not an index expression, `x++` is not `x--` …) -/
theorem node_type_differs (mt : Meta) (σ : Subst) (t t' : String) (id id' : Nat) (fs gs : List V)
    (hi : ignoredPtr t = false) (hm : t ≠ "ast.Ident") (hf : forDotsKeyOf t fs = none)
    (h : Inst mt σ (.ptr t id fs) (.ptr t' id' gs)) : t = t' := by
  cases h with
  | ignoredPtr _ _ _ _ h1 => simp [hi] at h1
  | metavar => exact absurd rfl hm
  | forDots _ _ _ _ _ _ _ _ _ hk => simp [hf] at hk
  | ptr => rfl

/-- an optional part present in the code but absent in the pattern (or the reverse) -/
theorem nil_differs (mt : Meta) (σ : Subst) (t t' : String) (id : Nat) (gs : List V)
    (hi : ignoredPtr t = false) (h : Inst mt σ (.nilP t) (.ptr t' id gs)) : False := by
  cases h with
  | ignoredNil _ _ h1 => simp [hi] at h1
  | nilP _ _ h1 => simp [V.isNil] at h1

end Gopatch.C01
