import GopatchModel.Walk
namespace Gopatch.C15
open Gopatch

mutual
/-- every path `walk` collects ends in ".go" -/
theorem walk_go_suffix : ∀ (node : FsNode) (path name p : String), p ∈ walk path name node → hasGoSuffix p = true
  | .file, path, name, p, h => by
      unfold walk at h
      rw [List.mem_ite_nil_right, List.mem_singleton] at h
      exact h.2 ▸ h.1
  | .symlink, _, _, _, h => nomatch h
  | .other, _, _, _, h => nomatch h
  | .dir es, path, name, p, h => by
      unfold walk at h
      split at h
      · cases h
      · exact walkEntries_go_suffix es path p h
theorem walkEntries_go_suffix : ∀ (es : List (String × FsNode)) (path p : String), p ∈ walkEntries path es → hasGoSuffix p = true
  | [], _, _, h => nomatch h
  | e :: es, path, p, h => by
      unfold walkEntries at h
      rw [List.mem_append] at h
      exact h.elim (walk_go_suffix e.2 _ _ p) (walkEntries_go_suffix es path p)
end

/-- `walk` collects nothing at a directory whose name `skipDir` excludes, at whichever node it is started (its case `.dir`
unfolded; `findGoFiles` starts it at the node the argument names, so a named `vendor` is skipped too, but no statement
speaks of `findGoFiles`) -/
theorem excluded_dir_empty (path name : String) (es : List (String × FsNode)) (h : skipDir name = true) :
    walk path name (.dir es) = [] := by
  simp [walk, h]

theorem excluded_names :
    skipDir "vendor" = true ∧ skipDir "testdata" = true ∧ skipDir ".git" = true ∧ skipDir "_tmp" = true ∧
    skipDir "vendors" = false ∧ skipDir "src" = false ∧ skipDir "test_data" = false ∧ skipDir "a.go" = false := by
  decide

/-- `walk` collects nothing at a symbolic link or at any other non-regular node (its cases unfolded) -/
theorem symlink_never (path name : String) : walk path name .symlink = [] ∧ walk path name .other = [] := by
  simp [walk]

/-- `walk` at a regular file whose path ends in ".go" collects that path, whatever `name` is: `skipDir` is asked of
directories only (its case `.file` unfolded) -/
theorem explicit_file (path name : String) (h : hasGoSuffix path = true) : walk path name .file = [path] := by
  simp [walk, h]

theorem walkEntries_eq_flatMap (path : String) (es : List (String × FsNode)) :
    walkEntries path es = es.flatMap (fun e => walk (path ++ "/" ++ e.1) e.1 e.2) := by
  induction es with
  | nil => rfl
  | cons e es ih => rw [walkEntries, ih, List.flatMap_cons]

theorem mem_walkEntries (path p : String) : ∀ (es : List (String × FsNode)),
    p ∈ walkEntries path es ↔ ∃ e, e ∈ es ∧ p ∈ walk (path ++ "/" ++ e.1) e.1 e.2 := by
  intro es
  rw [walkEntries_eq_flatMap, List.mem_flatMap]

/-- A file is collected below a directory exactly when the directory is not excluded and the
file is collected below one of its entries; applied level by level, files are reached only through
directories that `skipDir` lets pass. -/
theorem mem_walk_dir (path name p : String) (es : List (String × FsNode)) :
    p ∈ walk path name (.dir es) ↔
      skipDir name = false ∧ ∃ e, e ∈ es ∧ p ∈ walk (path ++ "/" ++ e.1) e.1 e.2 := by
  rw [walk, ← mem_walkEntries]
  cases skipDir name <;> simp

section order
variable {α : Type} (le : α → α → Bool)

def StrictAsc (l : List α) : Prop := l.Pairwise (fun a b => le a b = true ∧ le b a = false)

theorem mem_insertUniq (x y : α) (l : List α) (antisymm : ∀ a b, le a b = true → le b a = true → a = b) :
    y ∈ insertUniq le x l ↔ y = x ∨ y ∈ l := by
  fun_induction insertUniq le x l with
  | case1 => simp
  | case2 z zs h1 h2 => -- `x` is dropped: it is `z`
    cases antisymm x z h1 h2
    simp
  | case3 z zs => simp -- `x` goes in front
  | case4 z zs _ ih => simp [ih, or_left_comm] -- `x` goes somewhere after `z`

/-- `sortUniq` loses and invents nothing, for an antisymmetric `le`. (`processed` applies `sortUniq strLe` to the
discovered paths; no statement instantiates this, or the theorems below, at `strLe`.) -/
theorem mem_sortUniq (y : α) (l : List α) (antisymm : ∀ a b, le a b = true → le b a = true → a = b) :
    y ∈ sortUniq le l ↔ y ∈ l := by
  induction l with
  | nil => simp [sortUniq]
  | cons x xs ih =>
    show y ∈ insertUniq le x (sortUniq le xs) ↔ _
    rw [mem_insertUniq le x y _ antisymm, ih, List.mem_cons]

theorem insertUniq_strict (x : α) (l : List α)
    (total : ∀ a b, le a b = true ∨ le b a = true)
    (trans : ∀ a b c, le a b = true → le b c = true → le a c = true)
    (antisymm : ∀ a b, le a b = true → le b a = true → a = b)
    (h : StrictAsc le l) : StrictAsc le (insertUniq le x l) := by
  fun_induction insertUniq le x l with
  | case1 => exact List.pairwise_singleton _ _
  | case2 => exact h -- `x` is dropped
  | case3 z zs h1 h2 =>
    -- `x` goes in front: it is below `z`, hence below everything after `z`
    have hz := List.pairwise_cons.1 h
    refine List.pairwise_cons.2 ⟨fun y hy => ?_, h⟩
    rcases List.mem_cons.1 hy with rfl | hy
    · exact ⟨h1, Bool.eq_false_iff.2 h2⟩
    · refine ⟨trans x z y h1 (hz.1 y hy).1, Bool.eq_false_iff.2 fun hyx => ?_⟩
      exact Bool.false_ne_true ((hz.1 y hy).2.symm.trans (trans y x z hyx h1))
  | case4 z zs h1 ih =>
    -- `x` goes somewhere after `z`, which is below it
    have hz := List.pairwise_cons.1 h
    refine List.pairwise_cons.2 ⟨fun y hy => ?_, ih hz.2⟩
    rcases (mem_insertUniq le x y zs antisymm).1 hy with rfl | hy
    · exact ⟨(total y z).resolve_left h1, Bool.eq_false_iff.2 h1⟩
    · exact hz.1 y hy

/-- **Each element once, in a fixed order**: for a total, transitive, antisymmetric `le` the result of `sortUniq` is strictly
ascending, hence free of duplicates, whatever the order and multiplicity of its argument -/
theorem sortUniq_strict (l : List α)
    (total : ∀ a b, le a b = true ∨ le b a = true)
    (trans : ∀ a b c, le a b = true → le b c = true → le a c = true)
    (antisymm : ∀ a b, le a b = true → le b a = true → a = b) : StrictAsc le (sortUniq le l) := by
  induction l with
  | nil => simp [sortUniq, StrictAsc]
  | cons x xs ih => exact insertUniq_strict le x _ total trans antisymm ih

/-- two strictly ascending lists with the same elements are the same list: neither repeats an element, so they are
permutations of each other, and a strict order sorts in one way only -/
theorem strictAsc_unique (l1 l2 : List α) (h1 : StrictAsc le l1) (h2 : StrictAsc le l2) (h : ∀ x, x ∈ l1 ↔ x ∈ l2) :
    l1 = l2 := by
  have nodup : ∀ l, StrictAsc le l → l.Nodup := fun l hl =>
    hl.imp (fun hab e => by rw [e, hab.1] at hab; cases hab.2)
  refine List.Perm.eq_of_pairwise (fun a b _ _ hab hba => ?_) h1 h2
    ((List.perm_ext_iff_of_nodup (nodup l1 h1) (nodup l2 h2)).2 h)
  rw [hab.1] at hba
  cases hba.2

/-- for such an order the result of `sortUniq` is a function of the *set* of elements of its argument: their order and
repeats (for `processed`: argument order, repeated and overlapping arguments) do not matter -/
theorem order_and_repeats_irrelevant (l1 l2 : List α)
    (total : ∀ a b, le a b = true ∨ le b a = true)
    (trans : ∀ a b c, le a b = true → le b c = true → le a c = true)
    (antisymm : ∀ a b, le a b = true → le b a = true → a = b)
    (hset : ∀ x, x ∈ l1 ↔ x ∈ l2) : sortUniq le l1 = sortUniq le l2 := by
  apply strictAsc_unique le _ _ (sortUniq_strict le l1 total trans antisymm) (sortUniq_strict le l2 total trans antisymm)
  intro x
  rw [mem_sortUniq le x l1 antisymm, mem_sortUniq le x l2 antisymm]
  exact hset x

end order

end Gopatch.C15
