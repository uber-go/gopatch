import GopatchModel.Spec.CliSpec
import GopatchModel.FileM
namespace Gopatch.C06
open Gopatch

/-- A readable, parseable file to which no change applies produces no write, no diff,
no description, no error; `--print-only` echoes exactly its original bytes. -/
theorem noMatch_no_effect (o : Opts) (dt : String → String → String → String) (f : FileIn)
    (content : String) (hc : f.content = some content) (hp : f.parses = true)
    (hm : f.apply = .noMatch) :
    writesOf (stepFile o dt f) = [] ∧
    stderrOf (stepFile o dt f) = [] ∧
    errorsOf (stepFile o dt f) = [] ∧
    (stepFile o dt f).filterMap (fun x => match x with | .stdout s => some s | _ => none)
      = (if o.print ∧ ¬ (o.skipGenerated ∧ f.generated) then [content] else []) := by
  have hq := quiet_unless_ok (o := o) (dt := dt) (f := f) (by simp [hm])
  refine ⟨hq.1, hq.2, errorsOf_stepFile_eq_nil.2 ⟨⟨content, hc⟩, hp, .inr (.inl hm)⟩, ?_⟩
  unfold stepFile
  simp only [hc, hp, hm]
  by_cases hg : (o.skipGenerated && f.generated) = true
  · have hg' : o.skipGenerated = true ∧ f.generated = true := by simpa using hg
    simp [hg']
  · have hg' : ¬ (o.skipGenerated = true ∧ f.generated = true) := by simpa using hg
    by_cases hpr : o.print = true <;> simp [hg, hg', hpr]

/-- the writes of a run over `a ++ b`: those over `a`, then those over `b` -/
theorem writes_append (o : Opts) (dt) (a b : List FileIn) :
    writesOf (runFiles o dt (a ++ b)) = writesOf (runFiles o dt a) ++ writesOf (runFiles o dt b) := by
  simp only [writesOf_runFiles, List.flatMap_append]

/-- If nothing matches in any file (all readable and parseable), the run writes nothing,
reports nothing and exits 0. -/
theorem all_noMatch_exit0 (o : Opts) (dt) (fs : List FileIn)
    (h : ∀ f ∈ fs, (∃ c, f.content = some c) ∧ f.parses = true ∧ f.apply = .noMatch) :
    writesOf (runFiles o dt fs) = [] ∧ stderrOf (runFiles o dt fs) = [] ∧ exitOf (runFiles o dt fs) = 0 := by
  have step : ∀ f ∈ fs, writesOf (stepFile o dt f) = [] ∧ stderrOf (stepFile o dt f) = [] ∧
      errorsOf (stepFile o dt f) = [] := by
    intro f hf
    obtain ⟨⟨c, hc⟩, hp, hm⟩ := h f hf
    obtain ⟨hw, he, hx, -⟩ := noMatch_no_effect o dt f c hc hp hm
    exact ⟨hw, he, hx⟩
  rw [writesOf_runFiles, stderrOf_runFiles, exitOf_eq_zero, errorsOf_runFiles_eq_nil,
    List.flatMap_eq_nil_iff, List.flatMap_eq_nil_iff]
  exact ⟨fun f hf => (step f hf).1, fun f hf => (step f hf).2.1, fun f hf => (step f hf).2.2⟩

/-- `applyApi` on the outcome `.noMatch` of a file that parses gives back the bytes it was given (the definition unfolded) -/
theorem api_noMatch (src : String) : applyApi src true .noMatch = .ok src := by
  simp [applyApi]

/-- **No change applies, nothing happens to the tree.** When none of the changes of the run matches the file (its guards
fail or its pattern occurs nowhere), the change loop of the command line hands back the very tree and the very flag `m` it
was given (so "no match" when it starts from `false`) and no error, and so does the library's loop. In the per-file step
above `Apply.noMatch` stands for this outcome; no statement derives the one from the other (`mkApply` would, and is used nowhere). -/
theorem no_change_applies_means_unmatched (dmg : Change → FileM → FileM) :
    ∀ (cs : List Change) (f : FileM) (m : Bool), (∀ c ∈ cs, fileMatch c f = none) →
      applyChangesCli cs f m = (f, m, none) ∧ applyChangesApi dmg cs f m [] = (f, m, [])
  | [], f, m, _ => by simp [applyChangesCli, applyChangesApi]
  | c :: cs, f, m, h => by
    have hc : applyChange c f = .noMatch := by simp [applyChange, h c (List.mem_cons_self)]
    have ih := no_change_applies_means_unmatched dmg cs f m (fun x hx => h x (List.mem_cons_of_mem _ hx))
    simp [applyChangesCli, applyChangesApi, hc, ih.1, ih.2]

def sampleFile : FileIn :=
  { abs := "/a.go"
    provided := "a.go"
    content := some "package a\r\n"
    parses := true
    generated := false
    apply := .noMatch }

/-- non-vacuity: a concrete unmatched file in print mode echoes its bytes -/
example : stepFile { print := true } (fun _ _ _ => "") sampleFile
    = [.stdout "package a\r\n", .log "/a.go: skipped"] := by
  rfl

end Gopatch.C06
