import GopatchModel.FileM
import GopatchModel.Spec.LoaderSpec
namespace Gopatch.C09
open Gopatch

/-- a change that does not match is a no-op that does not disturb the others -/
theorem noMatch_is_noop (c : Change) (cs : List Change) (f : FileM) (m : Bool)
    (h : (match applyChange c f with | .noMatch => true | _ => false) = true) :
    applyChangesCli (c :: cs) f m = applyChangesCli cs f m := by
  cases ha : applyChange c f with
  | noMatch => simp [applyChangesCli, ha]
  | ok | fail => simp [ha] at h

/-- a change that applies hands the file it produced to the changes after it -/
theorem ok_feeds_next (c : Change) (cs : List Change) (f f' : FileM) (m : Bool) (k : Nat)
    (h : applyChange c f = .ok f' k) :
    applyChangesCli (c :: cs) f m = applyChangesCli cs f' true := by
  simp [applyChangesCli, h]

/-- **Changes are applied strictly in order.** Running a list of changes `a ++ b` is running `a`
and then, if none of them failed, `b` on the file `a` produced — so later changes see exactly
the code earlier ones introduced and never the code they removed. -/
theorem sequential (a b : List Change) (f : FileM) (m : Bool) :
    applyChangesCli (a ++ b) f m =
      match applyChangesCli a f m with
      | (f', m', none) => applyChangesCli b f' m'
      | r => r := by
  induction a generalizing f m with
  | nil => simp [applyChangesCli]
  | cons c cs ih =>
    simp only [List.cons_append, applyChangesCli]
    cases applyChange c f with
    | noMatch => exact ih f m
    | ok f' k => exact ih f' true
    | fail e => rfl

/-- **A change that matches nothing may stand anywhere.** A change that does not match the file as the changes before it
leave it - an unrelated patch given along with the others, in front, behind or in between - does not disturb the run: the
result, the "matched" flag and the failure, if any, are those of the run without it. -/
theorem a_change_that_does_not_match_may_stand_anywhere (c : Change) (a b : List Change) (f : FileM) (m : Bool)
    (hc : fileMatch c (applyChangesCli a f m).1 = none) :
    applyChangesCli (a ++ c :: b) f m = applyChangesCli (a ++ b) f m := by
  rw [sequential, sequential a b]
  cases h : applyChangesCli a f m with
  | mk f' r =>
    obtain ⟨m', e⟩ := r
    rw [h] at hc
    have hn : applyChange c f' = .noMatch := by simp [applyChange, hc]
    cases e with
    | none => simp [applyChangesCli, hn]
    | some e => rfl

/-- a chain of runs: one change per run; `rt` is what printing the result and parsing it again does to the tree
(go/printer and go/parser are parameters of the model) -/
def chainRuns (rt : FileM → FileM) : List Change → FileM → Bool → FileM × Bool × Option Err
  | [], f, m => (f, m, none)
  | c :: cs, f, m =>
      match applyChange c f with
      | .noMatch => chainRuns rt cs f m
      | .ok f' _ => chainRuns rt cs (rt f') true
      | .fail e => (f, false, some e)

/-- every intermediate file of the combined run is a fixed point of print + re-parse (evaluated on the real
trees by the harness command `stable`; where it fails the known finding F7 applies) -/
def StableAlong (rt : FileM → FileM) : List Change → FileM → Prop
  | [], _ => True
  | c :: cs, f =>
      match applyChange c f with
      | .noMatch => StableAlong rt cs f
      | .ok f' _ => rt f' = f' ∧ StableAlong rt cs f'
      | .fail _ => True

/-- **A patch with several changes, or several patches, is the chain of single-change runs** — as long as printing
an intermediate file and parsing it again gives back the tree that was printed. -/
theorem combined_eq_chain (rt : FileM → FileM) (cs : List Change) (f : FileM) (m : Bool) (h : StableAlong rt cs f) :
    chainRuns rt cs f m = applyChangesCli cs f m := by
  induction cs generalizing f m with
  | nil => rfl
  | cons c cs ih =>
    unfold chainRuns applyChangesCli
    unfold StableAlong at h
    cases ha : applyChange c f with
    | noMatch => simp only [ha] at h ⊢; exact ih f m h
    | ok f' k => simp only [ha] at h ⊢; rw [h.1]; exact ih f' true h.2
    | fail e => rfl

/-- if any step fails the combined run reports the failure (and the CLI then leaves the file
untouched: see `Gopatch.C16.failures_reported`, `Gopatch.stepFile`) -/
theorem failure_reported (a b : List Change) (c : Change) (f : FileM) (m : Bool) (f' : FileM) (m' : Bool)
    (e : Err) (h1 : applyChangesCli a f m = (f', m', none)) (h2 : applyChange c f' = .fail e) :
    ∃ g, applyChangesCli (a ++ c :: b) f m = (g, false, some e) := by
  rw [sequential, h1]
  simp [applyChangesCli, h2]

/-- the library's loop (`patch.File.Apply`) only ever adds to the errors it has recorded, whatever the refused changes
leave of the tree -/
theorem api_errors_grow (dmg : Change → FileM → FileM) : ∀ (cs : List Change) (f : FileM) (m : Bool) (es : List Err),
    ∃ g m' es', applyChangesApi dmg cs f m es = (g, m', es ++ es')
  | [], f, m, es => ⟨f, m, [], by rw [List.append_nil]; rfl⟩
  | c :: cs, f, m, es => by
    simp only [applyChangesApi]
    cases applyChange c f with
    | noMatch => exact api_errors_grow dmg cs f m es
    | ok f' k => exact api_errors_grow dmg cs f' true es
    | fail e =>
      obtain ⟨g, m', es', h⟩ := api_errors_grow dmg cs (dmg c f) m (es ++ [e])
      exact ⟨g, m', e :: es', h.trans (by rw [List.append_assoc]; rfl)⟩

/-- **The library fails exactly when the command line does.** `patch.File.Apply` goes on after a refused change, on
whatever tree the refused change left (`dmg`, arbitrary); the command line stops. All the same: when no change is refused
both end with the same tree and no error, and when the command line reports the error `e` of the first refused change, the
library reports errors too, `e` first. -/
theorem library_fails_exactly_when_the_command_line_does (dmg : Change → FileM → FileM) :
    ∀ (cs : List Change) (f : FileM) (m : Bool),
      match applyChangesCli cs f m with
      | (g, m', none) => applyChangesApi dmg cs f m [] = (g, m', [])
      | (_, _, some e) => ∃ g m' es, applyChangesApi dmg cs f m [] = (g, m', e :: es)
  | [], f, m => rfl
  | c :: cs, f, m => by
    simp only [applyChangesCli, applyChangesApi]
    cases applyChange c f with
    | noMatch => exact library_fails_exactly_when_the_command_line_does dmg cs f m
    | ok f' k => exact library_fails_exactly_when_the_command_line_does dmg cs f' true
    | fail e => exact api_errors_grow dmg cs (dmg c f) m [e]

/-- the order in which patches given with -p and -P are loaded: flags first, in the order
given, then the files of the list, in file order; stdin only when neither is given -/
def loadOrder (flags list : List String) (stdin : String) : List String :=
  if flags.isEmpty && list.isEmpty then [stdin] else flags ++ list

theorem loadOrder_keeps_flag_order (flags list : List String) (stdin : String) (h : flags ≠ []) :
    loadOrder flags list stdin = flags ++ list := by
  cases flags with
  | nil => exact absurd rfl h
  | cons x xs => simp [loadOrder]

/-- **A list of patches is those patches given with `-p`, in the same order**: a `-P` file that holds paths, one per line
(not empty, no carriage return at the end), loads exactly what the same paths load as `-p` flags - the same sources in the
same order, or the same failure. -/
theorem patches_from_a_list_are_the_flags_in_order (good : Load.Src → Bool) (paths : List Load.Bytes) (hne : paths ≠ [])
    (hok : ∀ p ∈ paths, Load.PathOK p) (listPath : Load.Bytes) (hlp : listPath ≠ []) :
    Load.loadPatches good [] listPath (some (Load.joinNl paths)) = Load.loadPatches good paths [] none :=
  Load.list_is_flags good paths hne hok listPath hlp

/-- **The run consists of the whole plan, in its order**: when loading succeeds, the programs handed to the per-file loop
are the sources of the plan - standard input if neither `-p` nor `-P` is given, the `-p` files in command-line order, then
the non-empty lines of the `-P` file - each of them loaded, none left out, none reordered. -/
theorem the_run_is_the_whole_plan_in_order (good : Load.Src → Bool) (patches : List Load.Bytes) (listPath : Load.Bytes)
    (listContent : Option Load.Bytes) (l : List Load.Src)
    (h : Load.loadPatches good patches listPath listContent = .loaded l) :
    l = (Load.plan patches listPath listContent).1 ∧ (∀ s ∈ l, good s = true) :=
  let r := Load.loaded_is_the_whole_plan good patches listPath listContent l h
  ⟨r.1, r.2.1⟩

/-- with a `-P` list that can be read, the plan begins with the `-p` files, in their order -/
theorem flags_come_before_the_list (patches : List Load.Bytes) (listPath c : Load.Bytes) (hlp : listPath ≠ []) :
    ∃ fromList, (Load.plan patches listPath (some c)).1 = patches.map Load.Src.file ++ fromList :=
  Load.flags_before_list patches listPath c hlp

/-- non-vacuity: `-p a -P l` with `l` = "b\r\n\nc" loads a, b, c -/
example : Load.loadPatches (fun _ => true) ["a".toUTF8.toList] "l".toUTF8.toList (some "b\r\n\nc".toUTF8.toList) =
    .loaded [.file "a".toUTF8.toList, .file "b".toUTF8.toList, .file "c".toUTF8.toList] := by decide +kernel

end Gopatch.C09
