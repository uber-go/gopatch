import GopatchModel.Spec.CliSpec
namespace Gopatch.C07
open Gopatch

/-- Whatever the formatting tail returns as success parses, for every flag combination,
provided `imports.Process` only returns text it could parse (recorded assumption). -/
theorem finish_parses (o : Opts) (formatted : Except String String)
    (process : String → Except String String) (parsesB : String → Bool)
    (hproc : ∀ b b', process b = .ok b' → parsesB b' = true)
    (out : String) (h : finishFile o formatted process parsesB = .ok out) : parsesB out = true := by
  revert h
  fun_cases finishFile o formatted process parsesB with
  | case1 => nofun -- `format.Node` failed
  | case2 bs => exact hproc bs out -- what `imports.Process` returned
  | case3 bs _ hp => -- import processing skipped: the bytes were parsed again
    rintro ⟨⟩
    exact hp
  | case4 => nofun -- and did not parse

/-- a rewrite whose text does not parse is an error for that file (never `ok`) when import
processing rejects unparseable input -/
theorem unparseable_is_error (o : Opts) (bs : String)
    (process : String → Except String String) (parsesB : String → Bool)
    (hrej : ∀ b, parsesB b = false → ∃ e, process b = .error e)
    (hbad : parsesB bs = false) :
    ∃ e, finishFile o (.ok bs) process parsesB = .error e := by
  unfold finishFile
  by_cases hs : o.skipImports = true
  · simp [hs, hbad]
  · obtain ⟨e, he⟩ := hrej bs hbad
    exact ⟨e, by simp [hs, he]⟩

/-- whatever a step writes is the bytes of the outcome `.ok` of that file (that these are what `finishFile` returned is
`mkApply`'s business, which no statement covers; for what is printed see `C12.modes_agree`) -/
theorem emitted_is_checked (o : Opts) (dt) (f : FileIn) (p b : String)
    (h : Out.write p b ∈ stepFile o dt f) : ∃ cs, f.apply = .ok b cs :=
  (write_mem_stepFile.1 h).1

/-- a file whose rewrite failed the check contributes an error and is neither written nor printed -/
theorem formatErr_not_emitted (o : Opts) (dt) (f : FileIn) (c m : String)
    (hc : f.content = some c) (hp : f.parses = true) (hg : (o.skipGenerated && f.generated) = false)
    (ha : f.apply = .formatErr m) :
    writesOf (stepFile o dt f) = [] ∧
    (stepFile o dt f).filterMap (fun x => match x with | .stdout s => some s | _ => none) = [] ∧
    errorsOf (stepFile o dt f) ≠ [] := by
  refine ⟨(quiet_unless_ok (by simp [ha])).1, ?_, ?_⟩
  · simp [stepFile, hc, hp, hg, ha]
  · rw [Ne, errorsOf_stepFile_eq_nil]
    simp [hg, ha]

end Gopatch.C07
