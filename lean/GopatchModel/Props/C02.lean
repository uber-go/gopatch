import GopatchModel.Spec.Traverse
import GopatchModel.Spec.All
namespace Gopatch.C02
open Gopatch

/-- An `identifier` metavariable binds only a (non-nil) `*ast.Ident`, an `expression`
metavariable only a non-nil pointer whose type implements `ast.Expr`. -/
theorem metavar_kind (k : Kind) (name : String) (g : V) (d d' : Data)
    (h : matchMetavar k name g d = some d') :
    kindOK k g = true ∧ g.isNil = false :=
  let ⟨hk, hn, _⟩ := matchMetavar_some.1 h
  ⟨hk, hn⟩

/-- an identifier metavariable stands for a single identifier only -/
theorem ident_kind_is_ident (g : V) (h : kindOK .ident g = true) (hn : g.isNil = false) :
    ∃ id fs, g = .ptr "ast.Ident" id fs := by
  cases g <;> simp [kindOK, V.isNil] at h hn
  rename_i t id fs
  exact ⟨id, fs, by rw [h]⟩

/-- an expression metavariable stands for a single expression node only -/
theorem expr_kind_is_expr (g : V) (h : kindOK .expr g = true) (hn : g.isNil = false) :
    ∃ t id fs, g = .ptr t id fs ∧ isExprType t = true := by
  cases g <;> simp [kindOK, V.isNil] at h hn
  rename_i t id fs
  exact ⟨t, id, fs, rfl, h⟩

/-- A second occurrence of a bound metavariable succeeds only on code that the captured
value's matcher accepts, and never changes the bindings. -/
theorem metavar_consistent (k : Kind) (name : String) (g c : V) (d d' : Data)
    (hb : d.lookMv name = some c) (h : matchMetavar k name g d = some d') :
    eqvM c g = true ∧ d' = d := by
  obtain ⟨_, _, ⟨c', hc', he, rfl⟩ | ⟨hnone, _⟩⟩ := matchMetavar_some.1 h
  · cases hb.symm.trans hc'
    exact ⟨he, rfl⟩
  · rw [hnone] at hb
    cases hb

/-- **One substitution for the whole pattern.** In an instance (`Inst`, which a successful match gives by
`C01.match_only_instances`) an occurrence of a declared metavariable stands for code accepted by the matcher
of the captured value `σ(name)`, and `σ` is the same at every occurrence, at any depth, because `Inst` carries
one `σ` through the whole pattern. -/
theorem occurrences_agree (mt : Meta) (σ : Subst) (id : Nat) (fs : List V) (g : V) (k : Kind)
    (hk : mt.look (identName fs) = some k) (hi : Inst mt σ (.ptr "ast.Ident" id fs) g) :
    ∃ c, σ.lookup (identName fs) = some c ∧ eqvM c g = true ∧ kindOK k g = true ∧ g.isNil = false := by
  cases hi with
  | ignoredPtr _ _ _ _ h1 => simp [ignoredPtr] at h1
  | metavar _ _ _ _ c hk' hko hn hl he =>
    rw [hk] at hk'; cases hk'
    exact ⟨c, hl, he, hko, hn⟩
  | forDots _ _ _ _ _ _ _ _ _ hfd => simp [forDotsKeyOf] at hfd
  | ptr _ _ _ _ _ hnone =>
    rw [hnone rfl] at hk; cases hk

/-- a name that is not declared in the @@ section is ordinary code: it matches only an
identifier with the same name -/
theorem undeclared_is_code (mt : Meta) (σ : Subst) (id : Nat) (p0 o0 : V) (name : String) (g : V)
    (hk : mt.look name = none) (hi : Inst mt σ (.ptr "ast.Ident" id [p0, .str name, o0]) g) :
    ∃ id' p1 o1, g = .ptr "ast.Ident" id' [p1, .str name, o1] := by
  cases hi with
  | ignoredPtr _ _ _ _ h1 => simp [ignoredPtr] at h1
  | metavar _ _ _ _ _ hk' => simp [identName, hk] at hk'
  | forDots _ _ _ _ _ _ _ _ _ hfd => simp [forDotsKeyOf] at hfd
  | ptr _ _ id' _ _ _ _ hl =>
    cases hl with
    | cons _ g1 _ _ _ hl1 =>
      cases hl1 with
      | cons _ _ _ _ h2 hl2 =>
        cases hl2 with
        | cons _ g3 _ _ _ hl3 =>
          cases hl3
          cases h2
          exact ⟨id', g1, g3, rfl⟩

/-- bindings made while trying one node never influence another node: every node of the file is
tried with the same incoming data, so the bindings of the sites are a function of the nodes alone
(the same statement as `C01.sites_are_matching_nodes`) -/
theorem attempts_independent (c : Change) (d : Data) (id : Nat) (fs : List V) :
    (sitesFields (nodeMatch c d) id 0 fs).map (·.data) = (nodesL fs).filterMap (nodeMatch c d) :=
  sitesFields_data (nodeMatch c d) fs id 0

/-- a failed attempt leaves no trace: the result of trying nodes `a ++ b` is the result of
trying `a` followed by the result of trying `b` -/
theorem attempts_compose (nm : V → Option Data) (a b : List V) :
    (a ++ b).filterMap nm = a.filterMap nm ++ b.filterMap nm := List.filterMap_append

/-- **Identical code at every occurrence is accepted.** "Stand for syntactically identical code" is stated
without an order: every occurrence matches one piece of code `c`.  The matcher compares later occurrences
with the *first* one instead; on well-typed syntax trees in parser normal form the two agree, because
"matches the same code" is Euclidean there. -/
theorem same_code_is_euclidean (sc : Schema) (c a b : V)
    (wc : wtv sc c = true) (wa : wtv sc a = true) (wb : wtv sc b = true) (na : nf a = true) (nb : nf b = true)
    (ta : c.tag = a.tag) (tb : c.tag = b.tag) (ha : eqvM c a = true) (hb : eqvM c b = true) : eqvM a b = true :=
  eqvM_euclid sc c a b wc wa wb na nb ta tb ha hb

/-- hence a later occurrence that stands for the same code as the earlier ones is never rejected, and the
bindings stay consistent with that code -/
theorem later_occurrence_accepted (sc : Schema) (σ : Subst) (hσ : GoodSubst sc σ) (k : Kind) (name : String) (g c : V)
    (d : Data) (hk : kindOK k g = true) (hn : g.isNil = false) (hl : σ.lookup name = some c) (he : eqvM c g = true)
    (wg : wtv sc g = true) (ng : nf g = true) (hc : Compat sc d σ) :
    ∃ d', matchMetavar k name g d = some d' ∧ Compat sc d' σ :=
  matchMetavar_complete sc σ hσ k name g c d hk hn hl he wg ng hc

/-- the hypotheses are satisfiable: a literal under the schema of `ast.BasicLit` is code a metavariable may stand for -/
def sc0 : Schema := { fields := fun t => if t == "ast.BasicLit" then some [.pos, .int, .str] else none, elem := fun _ => .str }
example : GoodV sc0 (.ptr "ast.BasicLit" 7 [.pos true 3, .int 5, .str "1"]) := by
  refine ⟨?_, ?_, ?_⟩ <;> decide +kernel

/-- without the typing hypothesis the Euclidean property fails (values no Go program can produce): a comment
group matches anything, two different strings do not match each other -/
example : eqvM (.ptr "ast.CommentGroup" 0 []) (.str "a") = true ∧ eqvM (.ptr "ast.CommentGroup" 0 []) (.str "b") = true ∧
    eqvM (.str "a") (.str "b") = false := by decide +kernel

end Gopatch.C02
