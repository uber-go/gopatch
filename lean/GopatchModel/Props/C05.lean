import GopatchModel.Spec.FrameFile
import GopatchModel.Spec.FrameImports
namespace Gopatch.C05
open Gopatch

/-- **Frame.** Replacing a site stores one value in one slot: with that slot blanked, the file
tree after the replacement equals the file tree before it — every other declaration, statement,
expression and list element keeps its place and content. -/
theorem replacement_changes_only_its_slot (pid fld : Nat) (idx : Option Nat) (nv : V) (tree : V) :
    maskV pid fld idx (setV pid fld idx nv tree) = maskV pid fld idx tree :=
  set_changes_only_slot pid fld idx nv tree

mutual
/-- a tree that does not contain the node `pid` is left untouched by a slot update (a site
nested in code that an outer replacement discarded has no effect) -/
theorem setV_absent (pid fld : Nat) (idx : Option Nat) (nv : V) :
    ∀ v, hasId pid v = false → setV pid fld idx nv v = v
  | .iface i v, h => congrArg (V.iface i) (setV_absent pid fld idx nv v h)
  | .slice e vs, h => congrArg (V.slice e) (setVs_absent pid fld idx nv vs h)
  | .ptr t id fs, h => by
      rw [hasId_ptr, Bool.or_eq_false_iff] at h
      rw [setV_ptr, if_neg (by simp [h.1]), setVs_absent pid fld idx nv fs h.2]
  | .pos _ _, _ | .str _, _ | .int _, _ | .bool _, _ | .nilP _, _ | .nilI _, _ | .nilS _, _ => rfl
theorem setVs_absent (pid fld : Nat) (idx : Option Nat) (nv : V) :
    ∀ vs, hasIdL pid vs = false → setVs pid fld idx nv vs = vs
  | [], _ => rfl
  | v :: vs, h => by
      rw [hasIdL_cons, Bool.or_eq_false_iff] at h
      rw [setVs_cons, setV_absent pid fld idx nv v h.1, setVs_absent pid fld idx nv vs h.2]
end

/-- one step of the replacement loop, unfolded: it goes on with the tree in which the site's slot was
overwritten if the generated value is admissible there, and with the tree as it is if not -/
theorem applySites_step (c : Change) (assoc : List (Nat × Nat)) (s : Site) (ss : List Site) (tree : V) (give : V)
    (hg : nodeReplace c assoc s.data = .ok give) :
    applySites c assoc (s :: ss) tree =
      applySites c assoc ss (if assignable give s.slotTy then setV s.parent s.field s.index give tree else tree) := by
  simp [applySites, hg, bind, Except.bind]

/-- with no site, so no slot to blank, the blanking is the identity -/
theorem blanking_nothing_hides_nothing (v : V) : maskP (slotsOf []) v = v :=
  show maskP (fun _ _ _ => false) v = v from maskP_empty v

/-- what the blanking hides: in `f(a, b)` with the second argument a site, it keeps `f` and `a` -/
example :
    maskP (slotsOf [{ parent := 1, field := 1, index := some 1, slotTy := "ast.Expr", data := default }])
      (.ptr "ast.CallExpr" 1 [.iface "ast.Expr" (.str "f"), .slice "ast.Expr" [.str "a", .str "b"]])
    = .ptr "ast.CallExpr" 1 [.iface "ast.Expr" (.str "f"), .slice "ast.Expr" [.str "a", hole]] := by
  rfl

/-- **Frame of a whole change.** With the slots of the sites blanked, all at once, the tree after the
replacement loop is the tree before it — for every list of sites, every generated value, admissible or not. -/
theorem change_rewrites_only_its_sites (c : Change) (assoc : List (Nat × Nat)) (sites : List Site) (tree tree' : V)
    (h : applySites c assoc sites tree = .ok tree') :
    maskP (slotsOf sites) tree' = maskP (slotsOf sites) tree :=
  applySites_in_slots c assoc (slotsOf sites) sites tree tree' (slotsOf_mem sites) h

/-- what `applyChange` returns when the change matches, names no package, and both loops succeed -/
theorem applyChange_ok (c : Change) (f : FileM) (d : Data) (sites : List Site) (tree1 : V)
    (imps : List (Option String × String)) (names : List String)
    (hm : fileMatch c f = some (d, sites)) (hp : c.plus.pkg = "")
    (hs : applySites c c.assoc sites f.tree = .ok tree1)
    (hi : addImports c d c.plus.imports f.imports [] = .ok (imps, names)) :
    let imps' := cleanupImports d tree1 names (d.matched.getD []) imps
    let numbered := renumV (syncImports tree1 f.imports imps') f.nextId
    applyChange c f = .ok { pkg := f.pkg, imports := imps', tree := numbered.1, nextId := numbered.2 } sites.length := by
  simp only [applyChange, hm, hp, bne_self_eq_false, Bool.false_eq_true, ↓reduceIte, hs, hi]

/-- **Frame of a whole change on a file.** One change applied to a file in which every node has an identity, the package
clause and the import declarations left as they are: the new tree — after the replacement loop and after the nodes the
replacer built were given identities — equals the old one once the slots of the matched sites are blanked. -/
theorem change_rewrites_only_its_sites_in_the_file (c : Change) (f : FileM) (d : Data) (sites : List Site) (tree1 : V)
    (imps : List (Option String × String)) (names : List String)
    (hm : fileMatch c f = some (d, sites)) (hp : c.plus.pkg = "")
    (hs : applySites c c.assoc sites f.tree = .ok tree1)
    (hi : addImports c d c.plus.imports f.imports [] = .ok (imps, names))
    (hsame : syncImports tree1 f.imports (cleanupImports d tree1 names (d.matched.getD []) imps) = tree1)
    (hz : hasId 0 f.tree = false) :
    ∃ f', applyChange c f = .ok f' sites.length ∧ maskP (slotsOf sites) f'.tree = maskP (slotsOf sites) f.tree := by
  refine ⟨_, applyChange_ok c f d sites tree1 imps names hm hp hs hi, ?_⟩
  rw [hsame]
  exact sites_then_numbering c c.assoc sites f.tree tree1 f.nextId hz hs

/-- a sufficient condition for the hypothesis `hsame` above: the import list did not change and the file has no empty
import declaration (`import ()`), which the synchronisation would drop -/
theorem syncImports_same (tree : V) (l : List (Option String × String))
    (hne : match tree with
      | .ptr _ _ (_ :: _ :: _ :: .slice _ decls :: _) => ∀ x ∈ decls, (isImportGenDecl x && (specsOf x).isEmpty) = false
      | _ => True) :
    syncImports tree l l = tree := by
  have hd : diffImports l l = [] := List.filter_eq_nil_iff.2 fun x hx => by simp [hx]
  unfold syncImports
  split
  · simp only [hd, addSpecs, List.isEmpty_nil, ↓reduceIte, deleteSpecs, List.foldl_nil]
    congr
    rw [List.filter_eq_self]
    intro x hx
    simp [hne x hx]
  · rfl

/-- **Frame of a whole change that also edits the imports.** One change applied to a file in which every node has an
identity, where no site is an element of the file's declaration list itself (sites lie inside declarations), the package
clause left as it is, the import list changed in whatever way the change dictates: the declarations of the result other than
import declarations are, in order and with the slots of the sites blanked, those the replacement loop left - although
their indexes in the declaration list may have shifted - and those are, index by index, the original declarations with
the same slots blanked. -/
theorem change_with_import_edits_keeps_the_other_declarations (c : Change) (f : FileM) (d : Data) (sites : List Site)
    (tree1 : V) (imps : List (Option String × String)) (names : List String)
    (t : String) (id : Nat) (doc pk nm : V) (e : String) (decls rest : List V)
    (hf : f.tree = .ptr t id (doc :: pk :: nm :: .slice e decls :: rest))
    (hm : fileMatch c f = some (d, sites)) (hp : c.plus.pkg = "")
    (hs : applySites c c.assoc sites f.tree = .ok tree1)
    (hi : addImports c d c.plus.imports f.imports [] = .ok (imps, names))
    (hz : hasId 0 f.tree = false)
    (hfile : ∀ s ∈ sites, s.parent = id → s.field ≠ 3) :
    ∃ f', applyChange c f = .ok f' sites.length ∧
      (otherDecls f'.tree).map (maskP (slotsOf sites)) = ((declsOf tree1).filter notImport).map (maskP (slotsOf sites)) ∧
      maskPs (slotsOf sites) (declsOf tree1) = maskPs (slotsOf sites) decls := by
  have hP : ∀ idx, slotsOf sites id 3 idx = false := by
    intro idx
    simp only [slotsOf, List.any_eq_false, Bool.and_eq_true, beq_iff_eq, not_and]
    exact fun s hs hpar => absurd hpar.2 (hfile s hs hpar.1)
  have hmask := change_rewrites_only_its_sites c c.assoc sites f.tree tree1 hs
  have hfresh := fresh_of_mask_eq _ _ _ hmask (fresh_of_noZero _ f.tree noq hz)
  rw [hf] at hmask
  obtain ⟨doc1, pk1, nm1, ds1, rest1, rfl, hds⟩ := mask_file_shape (slotsOf sites) t id doc pk nm e decls rest hP tree1 hmask
  exact ⟨_, applyChange_ok c f d sites _ imps names hm hp hs hi,
    sync_then_numbering_keeps_others (slotsOf sites) t id doc1 pk1 nm1 e ds1 rest1 f.imports _ f.nextId hP hfresh, hds⟩

/-- the package clause changes only if the '+' side names a package -/
theorem package_kept (c : Change) (f f' : FileM) (k : Nat) (h : applyChange c f = .ok f' k) (hp : c.plus.pkg = "") :
    f'.pkg = f.pkg := by
  revert h
  fun_cases applyChange c f with
  | case1 => nofun -- no match
  | case2 => nofun -- the replacement loop failed
  | case3 => nofun -- the imports could not be added
  | case4 =>
    rintro ⟨⟩
    exact if_neg (by simp [hp])

/-- the loop over the changes passes over a change that does not match: file and flag go on as they are -/
theorem noMatch_identity (c : Change) (cs : List Change) (f : FileM) (m : Bool)
    (h : fileMatch c f = none) : applyChangesCli (c :: cs) f m = applyChangesCli cs f m := by
  simp [applyChangesCli, applyChange, h]

end Gopatch.C05
