import GopatchModel.Cli
import GopatchModel.Generated
namespace Gopatch.C18
open Gopatch

/-- With --skip-generated a generated file (that was read and parses) has no effect at all: no write, no diff, no
print, no description, no error — only the verbose log line. -/
theorem skip_generated (o : Opts) (dt) (f : FileIn) (c : String)
    (hc : f.content = some c) (hp : f.parses = true) (hs : o.skipGenerated = true) (hg : f.generated = true) :
    stepFile o dt f = [.log s!"generated file {f.abs}: skipped"] := by
  unfold stepFile; simp [hc, hp, hs, hg]

/-- a file that is not generated is processed exactly as without the flag -/
theorem only_generated (o : Opts) (dt) (f : FileIn) (hg : f.generated = false) :
    stepFile o dt f = stepFile { o with skipGenerated := false } dt f := by
  simp only [stepFile, hg, Bool.and_false]

/-- without the flag the markers have no effect -/
theorem flag_off (o : Opts) (dt) (f : FileIn) (hs : o.skipGenerated = false) :
    stepFile o dt f = stepFile o dt { f with generated := false } := by
  simp only [stepFile, hs, Bool.false_and]

/-- the predicate: a marker counts only in a comment that starts before the package clause -/
theorem marker_after_package_ignored (groups : List (List Cmt))
    (h : ∀ g ∈ groups, ∀ c ∈ g, hasGenLine c.text = true → c.beforePackage = false) :
    astIsGenerated groups = false := by
  unfold astIsGenerated
  rw [List.any_eq_false]
  intro g hg
  rw [Bool.not_eq_true, List.any_eq_false]
  intro c hc
  cases hl : hasGenLine c.text with
  | false => simp
  | true => simp [h g hg c hc hl]

/-- The characters of the marker's two halves, read off the literals by `String.toList_ofList`: evaluating `String.toList`
has the kernel encode each literal in UTF-8 and decode it again, which is far dearer than the tests on the characters. -/
theorem genPrefix_toList :
    genPrefix.toList = ['/', '/', ' ', 'C', 'o', 'd', 'e', ' ', 'g', 'e', 'n', 'e', 'r', 'a', 't', 'e', 'd', ' '] :=
  String.toList_ofList

theorem genSuffix_toList :
    genSuffix.toList = [' ', 'D', 'O', ' ', 'N', 'O', 'T', ' ', 'E', 'D', 'I', 'T', '.'] :=
  String.toList_ofList

/-- near-miss spellings are not markers (decided on the concrete strings) -/
theorem near_misses :
    isGenLine "// Code generated by x. DO NOT EDIT." = true ∧
    isGenLine "// Code generated by x. DO NOT EDIT" = false ∧
    isGenLine "// code generated by x. DO NOT EDIT." = false ∧
    isGenLine "//Code generated by x. DO NOT EDIT." = false ∧
    isGenLine "// Code generated by x. Do not edit." = false ∧
    isGenLine "/* Code generated by x. DO NOT EDIT. */" = false ∧
    isGenLine "// Code generated DO NOT EDIT." = false ∧
    hasGenLine "/*\n// Code generated by x. DO NOT EDIT.\n*/" = true ∧
    hasGenLine "// Copyright\n// Code generated by x. DO NOT EDIT. trailing" = false := by
  simp only [isGenLine, hasGenLine]
  -- the characters of the nine strings, read off in the same way
  repeat rw [String.toList_ofList]
  unfold isGenLineL
  rw [genPrefix_toList, genSuffix_toList]
  decide

end Gopatch.C18
