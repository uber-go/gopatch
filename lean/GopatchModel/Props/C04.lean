import GopatchModel.FileM
import GopatchModel.Spec.Assoc
import GopatchModel.Spec.DotsKeys
import GopatchModel.Spec.SplitSpec
import GopatchModel.Spec.RewriteSpec
import GopatchModel.Spec.FinderSpec
namespace Gopatch.C04
open Gopatch

/-- `Sol mt e ps gs d d'`: the pattern list `ps` (explicit elements and elisions) matches the
list `gs` for *some* choice of the runs the elisions stand for, every explicit element matching
in order with the bindings threaded from `d` to `d'`.  Explicit elements are related by the
element matcher itself; elisions stand for arbitrary runs. -/
inductive Sol (mt : Meta) (e : String) : List V → List V → Data → Data → Prop
  | nil (d : Data) : Sol mt e [] [] d d
  | dots (p : V) (k : Nat) (ps run rest : List V) (d d' : Data) :
      dotsKeyOf e p = some k → Sol mt e ps rest (d.pushDots k run) d' → Sol mt e (p :: ps) (run ++ rest) d d'
  | elem (p g : V) (ps gs : List V) (d d1 d' : Data) :
      dotsKeyOf e p = none → matchV mt p g d = some d1 → Sol mt e ps gs d1 d' → Sol mt e (p :: ps) (g :: gs) d d'

/-- **Soundness.** Whatever the list matcher accepts is a solution. -/
theorem matchSeq_sound (mt : Meta) (e : String) : ∀ (ps gs : List V) (d d' : Data),
    matchSeq mt e ps gs d = some d' → Sol mt e ps gs d d'
  | [], gs, d, d', h => by
      obtain ⟨rfl, rfl⟩ := matchSeq_nil_some h
      exact Sol.nil _
  | p :: ps, gs, d, d', h => by
      rcases matchSeq_cons_some h with ⟨k, run, rest, hk, rfl, hb⟩ | ⟨g, gs', d1, hk, rfl, h1, h2⟩
      · exact Sol.dots p k ps run rest d d' hk (matchSeq_sound mt e ps rest _ d' hb)
      · exact Sol.elem p g ps gs' d d1 d' hk h1 (matchSeq_sound mt e ps gs' d1 d' h2)

/-- **Completeness.** If some choice of runs makes the explicit elements match in order, the
list matcher succeeds (it backtracks over the runs; before the `fix:` commit it did not). -/
theorem matchSeq_complete (mt : Meta) (e : String) (ps gs : List V) (d d' : Data)
    (h : Sol mt e ps gs d d') : ∃ d'', matchSeq mt e ps gs d = some d'' := by
  induction h with
  | nil d => exact ⟨d, by simp [matchSeq_nil]⟩
  | dots p k ps run rest d d' hk _ ih =>
    obtain ⟨d2, h2⟩ := ih
    rw [matchSeq_cons_dots hk]
    exact firstSome_splits_isSome (f := fun sr => matchSeq mt e ps sr.2 (d.pushDots k sr.1)) h2
  | elem p g ps gs d d1 d' hk h1 _ ih =>
    obtain ⟨d2, h2⟩ := ih
    exact ⟨d2, by simp [matchSeq_cons_elem hk, h1, h2]⟩

/-- A pattern with elisions matches a list exactly when some choice of runs makes every
explicit element match in order. -/
theorem matchSeq_iff (mt : Meta) (e : String) (ps gs : List V) (d : Data) :
    (∃ d', matchSeq mt e ps gs d = some d') ↔ ∃ d', Sol mt e ps gs d d' :=
  ⟨fun ⟨d', h⟩ => ⟨d', matchSeq_sound mt e ps gs d d' h⟩,
   fun ⟨d', h⟩ => matchSeq_complete mt e ps gs d d' h⟩

/-- **Shortest run, left to right.** When the pattern starts with an elision, the matcher
commits to a run for it such that the rest matches, and no shorter run allows the rest to
match at all (by soundness/completeness applied to the rest, "does not match" means that no
choice of the remaining runs works). -/
theorem first_dots_shortest (mt : Meta) (e : String) (p : V) (k : Nat) (ps gs : List V) (d d' : Data)
    (hk : dotsKeyOf e p = some k) (h : matchSeq mt e (p :: ps) gs d = some d') :
    ∃ run rest, run ++ rest = gs ∧ matchSeq mt e ps rest (d.pushDots k run) = some d' ∧
      ∀ run' rest', run' ++ rest' = gs → run'.length < run.length →
        matchSeq mt e ps rest' (d.pushDots k run') = none := by
  rw [matchSeq_cons_dots hk] at h
  exact firstSome_splits h

/-- **Reproduction.** Where the '+' pattern has an elision associated with an elision `k` of the
'-' pattern, the generated list contains, at that place, exactly the run recorded for `k` by the
matcher — the original elements themselves (same identities), all of them, in their order —
followed by whatever the rest of the '+' list generates. -/
theorem dots_reproduced (mt : Meta) (assoc : List (Nat × Nat)) (e : String) (p : V) (k' k : Nat)
    (ps : List V) (d : Data) (fb : Bool) (run rest : List V) (b : Bool)
    (hk : dotsKeyOf e p = some k') (ha : assocLook assoc k' = some k) (hr : d.lookDots k = some run)
    (hf : runFits e run = true) (hrest : replaceSeq mt assoc e ps d true = .ok (rest, b)) :
    replaceSeq mt assoc e (p :: ps) d fb = .ok (run ++ rest, true) := by
  rw [replaceSeq.eq_def]
  simp [hk, ha, hr, hf, hrest, Except.bind]

/-- what the matcher records for an elision is the run it skipped -/
theorem run_recorded (d : Data) (k : Nat) (run : List V) : (d.pushDots k run).lookDots k = some run := by
  simp [Data.pushDots, Data.lookDots]

/-- an elision that stands on an unchanged context line (the same patch position on the '-' and
the '+' side) is associated with itself, so by `dots_reproduced` the run it stood for reappears
at that place - provided the '+' keys are pairwise different (`hnd`) and every '+' elision has a '-' elision at or
before it (`hall`: so whenever no '+' elision precedes all '-' elisions) -/
theorem context_line_elision_associated (c : Change) (k : Nat)
    (hl : k ∈ collectDots (sidePattern c c.minus)) (hr : k ∈ collectDots (sidePattern c c.plus))
    (hnd : (collectDots (sidePattern c c.plus)).Nodup)
    (hall : ∀ r ∈ collectDots (sidePattern c c.plus), ∃ l ∈ collectDots (sidePattern c c.minus), l ≤ r) :
    assocLook c.assoc k = some k := by
  unfold Change.assoc assocLook
  exact connectDots_self _ _ k hl hr hnd hall

/-- "the only '...' on each side": a single '+' elision is associated with the single '-' elision
when the latter does not come after it in the patch -/
theorem single_elision_associated (l r : Nat) (h : l ≤ r) : (connectDots [l] [r]).lookup r = some l := by
  simp [connectDots, sortAsc, insertAsc, connectDotsGo, nearestBefore, nbStep, h]

/-- **The run an elision stood for is found under its key when the match of its list is complete** — provided no later
elision of the list has the same key (elisions are told apart by their patch position).  With `dots_reproduced`
and `context_line_elision_associated`: what a context-line `...` elided reappears at its place. -/
theorem elision_run_kept (mt : Meta) (e : String) (p : V) (k : Nat) (ps gs : List V) (d d' : Data)
    (hk : dotsKeyOf e p = some k) (hfresh : k ∉ collectSeq e ps) (h : matchSeq mt e (p :: ps) gs d = some d') :
    ∃ run rest, run ++ rest = gs ∧ d'.lookDots k = some run ∧
      ∀ run' rest', run' ++ rest' = gs → run'.length < run.length → matchSeq mt e ps rest' (d.pushDots k run') = none := by
  obtain ⟨run, rest, hcat, hm, hshort⟩ := first_dots_shortest mt e p k ps gs d d' hk h
  refine ⟨run, rest, hcat, ?_, hshort⟩
  rw [(matchSeq_run mt e ps rest _ d' hm).lookDots_eq hfresh]
  exact run_recorded d k run

/-- the keys of the elisions of the '-' side of a change are pairwise different (what the engine relies on; the driver
evaluates the same test on every case and prints it as `keysdistinct`) -/
def keysDistinct (c : Change) : Bool :=
  let ks := collectDots (sidePattern c c.minus)
  ks.all (fun k => ks.count k == 1)

def stmtOf (name : String) : V :=
  .iface "ast.Stmt" (.ptr "ast.ExprStmt" 0 [.iface "ast.Expr" (.ptr "ast.Ident" 0 [.pos true 0, .str name, .nilP "ast.Object"])])

/-- when two elisions share a key the earlier one's run is lost (the repaired defect F24: the implied leading
elision of a statement patch had the position of a flush-left `...` on the first line) -/
theorem shared_key_loses_run :
    (matchSeq [] "ast.Stmt" [mkDotsStmt 7, mkDotsStmt 7, stmtOf "foo"] [stmtOf "a", stmtOf "b", stmtOf "foo"] Data.empty).map
      (fun d => (d.lookDots 7).map List.length) = some (some 2) ∧
    (matchSeq [] "ast.Stmt" [mkDotsStmt 6, mkDotsStmt 7, stmtOf "foo"] [stmtOf "a", stmtOf "b", stmtOf "foo"] Data.empty).map
      (fun d => ((d.lookDots 6).map List.length, (d.lookDots 7).map List.length)) = some (some 0, some 2) := by
  constructor <;> decide +kernel

/-- the list matcher as it was: each elision commits to the first start at which the *next
section* (the explicit elements up to the following elision) matches; an empty section swallows
the rest -/
def greedySection (m : Nat → Nat → Bool) : List Nat → List Nat → Option (List Nat)
  | [], gs => some gs
  | p :: ps, g :: gs => if m p g then greedySection m ps gs else none
  | _ :: _, [] => none

def greedyFind (m : Nat → Nat → Bool) (sec : List Nat) : Nat → List Nat → Option (List Nat)
  | 0, _ => none
  | fuel + 1, gs =>
      if sec.isEmpty then some []
      else match greedySection m sec gs with
        | some rest => some rest
        | none => match gs with
            | [] => none
            | _ :: gs' => greedyFind m sec fuel gs'

def greedy (m : Nat → Nat → Bool) : List (List Nat) → List Nat → Bool
  | [], gs => gs.isEmpty
  | sec :: secs, gs => match greedyFind m sec (gs.length + 1) gs with
      | some rest => greedy m secs rest
      | none => false

/-- `foo(..., x)` against `foo(x, y, x)` (elements as numbers, 1 = x, 2 = y): the former algorithm, re-modelled
here on numbers (`greedy`), says "no match" although cutting the list after `x, y` leaves exactly `x`. -/
theorem greedy_incomplete :
    greedy (fun p g => p == g) [[1]] [1, 2, 1] = false ∧ [1, 2] ++ [1] = [1, 2, 1] := by decide

/-- **An elision on a context line has one place.** What lies behind the premise of `context_line_elision_associated`
(the same key on both sides), read off the text of the patch - the step from a reported place to a key of the compiled
pattern is go/parser's and is observed, not stated: a body line that starts with neither '-' nor '+' goes to both versions of the change, and each of its bytes -
the first dot of an elision written on it - is reported at the same line and column of the patch file in the '-' version
and in the '+' version, whatever '-' and '+' lines stand in front of it. -/
theorem context_line_elision_has_one_place (content : Sec.Bytes) (a b : List Sec.Line) (l : Sec.Line) (k : Nat)
    (hctx : ∀ c rest, l.text = c :: rest → c ≠ Sec.minusB ∧ c ≠ Sec.plusB) (hk : k ≤ l.text.length) :
    (Sec.splitPatch (a ++ l :: b)).1.positionIn content (Sec.size (a.filterMap (Sec.sideLine true)) + k) =
      (Sec.splitPatch (a ++ l :: b)).2.positionIn content (Sec.size (a.filterMap (Sec.sideLine false)) + k) :=
  Sec.context_line_stands_at_one_place content a b l k (Sec.sideLine_context true l hctx) (Sec.sideLine_context false l hctx) hk

/-- **An elision is recorded where its "..." stands in the version**: `rewrite` may put a package clause and a function
header in front and replaces every "..." by a name of the same length; the adjustments it returns take the offset of the
`i`-th augmentation, an elision, in the augmented source back to the offset of its "..." (hypothesis `AugsOK`: the
augmentations come in order, inside the source, elisions three bytes long - evaluated by the driver on the finder's
output for every version of every generated patch). -/
theorem elision_recorded_where_its_dots_stand (src : List UInt8) (augs : List Fnd.Aug)
    (hok : Fnd.AugsOK src 0 (Fnd.sortByStart augs)) (i s e : Nat) (n : Bool)
    (h : (Fnd.sortByStart augs)[i]? = some (.dots s e n)) :
    ∃ s' e', (Fnd.rewrite src augs).2.1[i]? = some (.dots s' e' n) ∧ Fnd.adjust (Fnd.rewrite src augs).2.2 s' = s :=
  Fnd.rewrite_elision_maps_back src augs hok i s e n h

/-- **An offset of a version is reported in the user's coordinates**: for any patch file, any change found in it and
either version of its body, byte `k` of the text contributed by a body line is reported at the line and column which that
byte has in the patch file. -/
theorem version_offsets_are_patch_file_places (u : Sec.Uni) (content : Sec.Bytes) (c : Sec.Change)
    (hc : c ∈ (Sec.split u content).1) (m : Bool) (a b : List Sec.Line) (l l' : Sec.Line)
    (hbody : c.patch = a ++ l :: b) (hl : Sec.sideLine m l = some l') (k : Nat) (hk : k ≤ l'.text.length) :
    (Sec.build (a.filterMap (Sec.sideLine m) ++ l' :: b.filterMap (Sec.sideLine m))).positionIn content
        (Sec.size (a.filterMap (Sec.sideLine m)) + k) = Sec.position content (l'.off + k) :=
  Sec.version_byte_reported_where_it_stands u content c hc m a b l l' hbody hl k hk

/-- **Every elision is recorded at the three dots it was written with.** For any patch file, any change sectioning finds
in it and either version of the change's body: take the augmentations the finder produced for that version (in order,
inside it, elisions three bytes long - `AugsOK`) and let the `i`-th be an elision over bytes that are indeed `...`. Then the
start `s'` that `rewrite` gives the `i`-th augmentation has, mapped back by `posAdjuster` and reported through the version's
line entries, the line and column of an offset of the patch file where the file holds `...`. (`splitPatch`, the line
entries, `rewrite`, `posAdjuster` and `token.File.Position` are the model's; that the parser places its node at `s'`, the
first byte of the replacing name, is not stated here: it is observed through the `split` stream.) -/
theorem every_elision_is_recorded_at_its_three_dots (u : Sec.Uni) (content : Sec.Bytes) (c : Sec.Change)
    (hc : c ∈ (Sec.split u content).1) (m : Bool) (augs : List Fnd.Aug)
    (hok : Fnd.AugsOK (Sec.build (c.patch.filterMap (Sec.sideLine m))).contents 0 (Fnd.sortByStart augs))
    (i s e : Nat) (n : Bool) (h : (Fnd.sortByStart augs)[i]? = some (.dots s e n))
    (h0 : (Sec.build (c.patch.filterMap (Sec.sideLine m))).contents[s]? = some 46)
    (h1 : (Sec.build (c.patch.filterMap (Sec.sideLine m))).contents[s + 1]? = some 46)
    (h2 : (Sec.build (c.patch.filterMap (Sec.sideLine m))).contents[s + 2]? = some 46) :
    ∃ s' e' p, (Fnd.rewrite (Sec.build (c.patch.filterMap (Sec.sideLine m))).contents augs).2.1[i]? = some (.dots s' e' n) ∧
      (Sec.build (c.patch.filterMap (Sec.sideLine m))).positionIn content
          (Fnd.adjust (Fnd.rewrite (Sec.build (c.patch.filterMap (Sec.sideLine m))).contents augs).2.2 s') = Sec.position content p ∧
      content[p]? = some 46 ∧ content[p + 1]? = some 46 ∧ content[p + 2]? = some 46 := by
  obtain ⟨s', e', hout, hadj⟩ := Fnd.rewrite_elision_maps_back _ augs hok i s e n h
  obtain ⟨p, hp, hd⟩ := Sec.dots_of_a_version_are_dots_of_the_file u content c hc m s h0 h1 h2
  exact ⟨s', e', p, hout, by rw [hadj]; exact hp, hd⟩

/-- what is assumed of go/scanner on one version of a change: the stream ends with its only EOF token, the tokens come in
source order inside the version, an ELLIPSIS token covers three bytes and these are `...` (evaluated by the driver on the
tokens of every real version: `scanOKB`) -/
structure ScanOK (src : List UInt8) (toks : List Fnd.Tok) : Prop where
  wf : Fnd.WF toks
  laid : Fnd.Laid toks
  inside : ∀ t ∈ toks, t.off ≤ src.length
  dots : ∀ t ∈ toks, t.kind = .ellipsis → src[t.off]? = some 46 ∧ src[t.off + 1]? = some 46 ∧ src[t.off + 2]? = some 46

theorem scanOKB_sound (src : List UInt8) (toks : List Fnd.Tok) (h : Fnd.scanOKB src toks = true) : ScanOK src toks := by
  simp only [Fnd.scanOKB, Bool.and_eq_true, List.all_eq_true, decide_eq_true_eq, Bool.or_eq_true, bne_iff_ne, ne_eq,
    beq_iff_eq] at h
  obtain ⟨⟨hwf, hlaid⟩, hall⟩ := h
  refine ⟨Fnd.wfB_sound _ hwf, Fnd.laidB_sound _ hlaid, fun t ht => (hall t ht).1, fun t ht hk => ?_⟩
  rcases (hall t ht).2 with hne | ⟨⟨h0, h1⟩, h2⟩
  · exact absurd hk hne
  · exact ⟨h0, h1, h2⟩

/-- **Every elision the finder reports is recorded at the three dots it was written with** -
`every_elision_is_recorded_at_its_three_dots` with its hypotheses on the augmentations discharged: they are what `find`
itself returns on the tokens of the version, and nothing is assumed but `ScanOK`, a statement about go/scanner's tokens.
(`find_augs_ok`: the finder's output, sorted, is in order, inside the source, elisions three bytes long;
`find_dots_on_ellipsis`: every elision in it stands on an ELLIPSIS token.) -/
theorem every_elision_the_finder_reports_is_recorded_at_its_three_dots (u : Sec.Uni) (content : Sec.Bytes) (c : Sec.Change)
    (hc : c ∈ (Sec.split u content).1) (m : Bool) (toks : List Fnd.Tok)
    (hs : ScanOK (Sec.build (c.patch.filterMap (Sec.sideLine m))).contents toks)
    (i s e : Nat) (n : Bool) (h : (Fnd.sortByStart (Fnd.find toks hs.wf))[i]? = some (.dots s e n)) :
    ∃ s' e' p, (Fnd.rewrite (Sec.build (c.patch.filterMap (Sec.sideLine m))).contents (Fnd.find toks hs.wf)).2.1[i]? =
        some (.dots s' e' n) ∧
      (Sec.build (c.patch.filterMap (Sec.sideLine m))).positionIn content
          (Fnd.adjust (Fnd.rewrite (Sec.build (c.patch.filterMap (Sec.sideLine m))).contents (Fnd.find toks hs.wf)).2.2 s') =
        Sec.position content p ∧
      content[p]? = some 46 ∧ content[p + 1]? = some 46 ∧ content[p + 2]? = some 46 := by
  have hok := Fnd.find_augs_ok _ toks hs.wf hs.laid hs.inside
  have hmem : Fnd.Aug.dots s e n ∈ Fnd.find toks hs.wf :=
    (Fnd.sortByStart_perm _).mem_iff.1 (List.mem_of_getElem? h)
  obtain ⟨_, t, ht, hk, rfl⟩ := Fnd.find_dots_on_ellipsis toks hs.wf hs.laid s e n hmem
  obtain ⟨h0, h1, h2⟩ := hs.dots t ht hk
  exact every_elision_is_recorded_at_its_three_dots u content c hc m _ hok i t.off e n h h0 h1 h2

/-- on tokens that are as `ScanOK` says, the finder's augmentations, sorted, follow one another inside the version: the
hypothesis `AugsOK` of the theorems about `rewrite` holds for `find`'s own output -/
theorem the_finder_meets_the_rewriters_hypothesis (src : List UInt8) (toks : List Fnd.Tok) (hs : ScanOK src toks) :
    Fnd.AugsOK src 0 (Fnd.sortByStart (Fnd.find toks hs.wf)) :=
  Fnd.find_augs_ok src toks hs.wf hs.laid hs.inside

/-- non-vacuity: the tokens of `foo(...)` followed by an elided statement `...` - the finder reports a fake package clause,
a fake function and both elisions, and `ScanOK`'s decidable parts hold -/
example :
    let toks : List Fnd.Tok := [⟨.ident, 0, 1⟩, ⟨.lparen, 3, 1⟩, ⟨.ellipsis, 4, 1⟩, ⟨.rparen, 7, 1⟩, ⟨.other, 8, 1⟩,
      ⟨.ellipsis, 9, 2⟩, ⟨.other, 12, 2⟩, ⟨.eof, 13, 3⟩]
    Fnd.wfB toks = true ∧ Fnd.laidB toks = true ∧
      (Fnd.findTotal toks).map Fnd.sortByStart =
        some [.fakePackage 0, .fakeFunc 0 true, .dots 4 7 false, .dots 9 12 false] ∧
      (let src := "foo(...)\n...\n".toUTF8.toList
       toks.all (fun t => decide (t.off ≤ src.length) &&
         (t.kind != .ellipsis || (src[t.off]? == some 46 && src[t.off + 1]? == some 46 && src[t.off + 2]? == some 46))) = true) := by
  decide +kernel

/-- **What `rewrite` keeps, it keeps in place**: a byte of a version that lies in no augmentation is found in the augmented
source at an offset that `posAdjuster.Pos` takes back to the byte's own offset - so the place of every token go/parser sees
outside the elisions (an operand next to a `...`, the callee of a call with elided arguments) is its place in the version,
and, through `version_offsets_are_patch_file_places`, in the patch file. -/
theorem code_next_to_an_elision_keeps_its_place (src : List UInt8) (augs : List Fnd.Aug)
    (hok : Fnd.AugsOK src 0 (Fnd.sortByStart augs)) (k : Nat) (hk : k < src.length)
    (hout : ∀ a ∈ Fnd.sortByStart augs, ¬ (a.start ≤ k ∧ k < a.stop)) :
    ∃ o, (Fnd.rewrite src augs).1[o]? = src[k]? ∧ Fnd.adjust (Fnd.rewrite src augs).2.2 o = k :=
  -- the results of `rewrite` are by definition those of its loop run from the empty state
  Fnd.retained_byte_maps_back src (Fnd.sortByStart augs) {} Fnd.Inv.init hok k (Nat.zero_le _) hk hout

/-- non-vacuity: the body `-foo(...)`, ` ...`, `+bar(...)`: the context line is line 2 of the patch in both versions -/
example :
    let content : Sec.Bytes := "-foo(...)\n ...\n+bar(...)\n".toUTF8.toList
    let body := Sec.rawLines content
    ((Sec.splitPatch body).1.positionIn content (9 + 1), (Sec.splitPatch body).2.positionIn content (0 + 1)) = ((2, 2), (2, 2)) := by
  decide +kernel

end Gopatch.C04
