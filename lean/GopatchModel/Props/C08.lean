import GopatchModel.FileM
import GopatchModel.Finder
namespace Gopatch.C08
open Gopatch

def NoPanic {α} (r : R α) : Prop := ∀ e, r = .error e → ∃ m, e = Err.err m

theorem np_ok {α} (x : α) : NoPanic (.ok x : R α) := by
  intro e h; cases h

theorem np_err {α} (m : String) : NoPanic (.error (Err.err m) : R α) := by
  intro e h
  cases h
  exact ⟨m, rfl⟩

theorem np_bind {α β} {r : R α} {f : α → R β} (h1 : NoPanic r) (h2 : ∀ x, NoPanic (f x)) : NoPanic (r.bind f) := by
  intro e h
  cases r with
  | error e' => cases h; exact h1 _ rfl
  | ok x => exact h2 x e h

mutual
theorem replaceV_np (mt : Meta) (assoc : List (Nat × Nat)) : ∀ (p : V) (d : Data) (fb : Bool),
    NoPanic (replaceV mt assoc p d fb)
  | .pos pv pk, d, fb => by
      unfold replaceV
      split
      · exact np_ok _
      · split <;> exact np_ok _
  | .str _, _, _ | .int _, _, _ | .bool _, _, _ | .nilP _, _, _ | .nilI _, _, _ | .nilS _, _, _ => by
      unfold replaceV; exact np_ok _
  | .iface i pv, d, fb => by
      unfold replaceV
      refine np_bind (replaceV_np mt assoc pv d fb) fun x => ?_
      split
      · exact np_ok _
      · exact np_err _
  | .slice e ps, d, fb => by
      unfold replaceV
      split
      · refine np_bind (replaceSeq_np mt assoc e ps d fb) fun x => ?_
        split <;> exact np_ok _
      · exact np_bind (replaceVs_np mt assoc ps d fb) fun x => np_ok _
  | .ptr t id fs, d, fb => by
      unfold replaceV
      split
      · exact np_ok _ -- a comment group or an object
      · split
        · exact np_err _ -- an elision outside a list
        · split
          · split -- a metavariable
            · exact np_ok _
            · exact np_err _
          · split
            · split -- a `for ... {` header
              · exact np_bind (replaceNth_np mt assoc fs 4 d fb) fun x => np_ok _
              · exact np_err _
            · exact np_bind (replaceVs_np mt assoc fs d fb) fun x => np_ok _ -- any other node
theorem replaceVs_np (mt : Meta) (assoc : List (Nat × Nat)) : ∀ (ps : List V) (d : Data) (fb : Bool),
    NoPanic (replaceVs mt assoc ps d fb)
  | [], _, _ => by unfold replaceVs; exact np_ok _
  | p :: ps, d, fb => by
      unfold replaceVs
      refine np_bind (replaceV_np mt assoc p d fb) fun x => ?_
      split
      · exact np_err _
      · exact np_bind (replaceVs_np mt assoc ps d fb) fun xs => np_ok _
theorem replaceSeq_np (mt : Meta) (assoc : List (Nat × Nat)) (e : String) : ∀ (ps : List V) (d : Data) (fb : Bool),
    NoPanic (replaceSeq mt assoc e ps d fb)
  | [], _, _ => by unfold replaceSeq; exact np_ok _
  | p :: ps, d, fb => by
      unfold replaceSeq
      split
      · split
        · exact np_err _
        · exact np_bind (replaceSeq_np mt assoc e ps d _) fun x => np_ok _
      · refine np_bind (replaceV_np mt assoc p d fb) fun x => ?_
        split
        · exact np_err _
        · exact np_bind (replaceSeq_np mt assoc e ps d fb) fun y => np_ok _
theorem replaceNth_np (mt : Meta) (assoc : List (Nat × Nat)) : ∀ (ps : List V) (i : Nat) (d : Data) (fb : Bool),
    NoPanic (replaceNth mt assoc ps i d fb)
  | [], _, _, _ => by unfold replaceNth; exact np_err _
  | p :: _, 0, d, fb => by unfold replaceNth; exact replaceV_np mt assoc p d fb
  | _ :: ps, i+1, d, fb => by unfold replaceNth; exact replaceNth_np mt assoc ps i d fb
end

/-- `find` is total: for every token stream that ends with its EOF token there is a result.
(The definitions in `Finder.lean` are by well-founded recursion on the number of remaining
tokens; that Lean accepts them is the termination proof.) -/
theorem find_total (toks : List Fnd.Tok) (h : Fnd.wfB toks = true) : (Fnd.findTotal toks).isSome = true := by
  simp [Fnd.findTotal, h]

/-- The receiver loop as it was before the `fix:` commit (no EOF test), with explicit fuel, reduced to its stepping:
the Go loop body is `f.process()` (find.go), which at EOF only steps, as `s.next` does here. -/
def recvLoopOld : Nat → Fnd.St → Option Fnd.St
  | 0, _ => none
  | fuel + 1, s => if s.kind = .rparen then some s else recvLoopOld fuel s.next

/-- Before the fix the scan never left the loop once it had reached EOF: no amount of fuel suffices on the one-token
stream `eof@6`, which is where the scan of the patch body `func (` stands after `func` and `(`. -/
theorem old_loop_spins (fuel : Nat) :
    recvLoopOld fuel { toks := [{ kind := .eof, off := 6, line := 1 }], augs := [] } = none := by
  induction fuel with
  | zero => rfl
  | succ n ih =>
    simp only [recvLoopOld]
    have : ({ toks := [{ kind := Fnd.K.eof, off := 6, line := 1 }], augs := [] } : Fnd.St).kind ≠ .rparen := by decide
    simp only [this, ↓reduceIte]
    exact ih

end Gopatch.C08
