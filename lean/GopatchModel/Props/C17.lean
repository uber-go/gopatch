import GopatchModel.Intervals
import GopatchModel.Spec.AstDiffSame
/-
  Props/C17.lean — comments.  What the filter of `cleanupFilePos` does to the comments, given the changed intervals
  (deletion only; a comment that sticks out of every interval stays); what astdiff, which produces the regions behind
  those intervals, guarantees (no invented position, untouched neighbours left alone, unchanged syntax reports
  nothing, which elements a list diff pairs as identical); and how the one reaches the other through the changelog.
-/
namespace Gopatch.C17
open Gopatch

/-- the comments handed to the printer are obtained from the input's comments by deletion only:
nothing is invented, nothing duplicated, order kept — after any number of changes -/
theorem survivors_sublist (changes : List (List Iv)) (cs : List Comment) :
    (changes.foldl (fun acc ivs => filterComments ivs acc) cs).Sublist cs :=
  List.foldlRecOn (motive := fun acc : List Comment => acc.Sublist cs) changes _ (List.Sublist.refl _)
    fun _ h _ _ => List.filter_sublist.trans h

theorem survivors_count_le (changes : List (List Iv)) (cs : List Comment) (c : Comment) :
    (changes.foldl (fun acc ivs => filterComments ivs acc) cs).count c ≤ cs.count c :=
  (survivors_sublist changes cs).count_le c

/-- a comment survives a change unless it lies wholly inside one changed interval -/
theorem survives_iff (ivs : List Iv) (cs : List Comment) (c : Comment) :
    c ∈ filterComments ivs cs ↔ c ∈ cs ∧ dropped ivs c = false := by
  simp [filterComments, List.mem_filter]

/-- a comment is kept exactly when it sticks out of every changed interval that has a start -/
theorem dropped_eq_false (ivs : List Iv) (c : Comment) :
    dropped ivs c = false ↔ ∀ i ∈ ivs, i.s = 0 ∨ c.pos < i.s ∨ i.e < c.stop := by
  simp only [dropped, List.any_eq_false, inside, Bool.and_eq_true, bne_iff_ne, ne_eq, decide_eq_true_eq]
  refine forall_congr' fun i => forall_congr' fun _ => ?_
  omega

/-- a comment that sticks out of every changed interval survives -/
theorem outside_changed_survives (ivs : List Iv) (c : Comment)
    (hout : ∀ i ∈ ivs, c.pos < i.s ∨ i.e < c.stop) : dropped ivs c = false :=
  (dropped_eq_false ivs c).2 fun i hi => Or.inr (hout i hi)

theorem respects_iff (ivs : List Iv) (untouched : List Extent) :
    respects ivs untouched = true ↔ ∀ i ∈ ivs, ∀ x ∈ untouched, clearOf i x = true := by
  simp only [respects, List.all_eq_true]

/-- the driver reports an offending (interval, declaration) pair exactly when `respects` fails -/
theorem no_offender_iff_respects (ivs : List Iv) (untouched : List Extent) :
    offender ivs untouched = none ↔ respects ivs untouched = true := by
  rw [respects_iff, offender, List.find?_eq_none]
  simp only [List.mem_flatMap, List.mem_map, Bool.not_eq_true', Bool.not_eq_false]
  constructor
  · exact fun h i hi x hx => h (i, x) ⟨i, hi, x, hx, rfl⟩
  · rintro h _ ⟨i, hi, x, hx, rfl⟩
    exact h i hi x hx

/-- **Comments of an untouched declaration survive**, given what astdiff owes the filter: if no changed interval
reaches into the extent of a declaration (`respects`, evaluated on the real engine's intervals on every run), every
comment lying within that extent — its doc comment, the comments inside it, those trailing its last line — is kept. -/
theorem untouched_declaration_keeps_comments (ivs : List Iv) (untouched : List Extent) (x : Extent) (c : Comment)
    (hr : respects ivs untouched = true) (hx : x ∈ untouched) (hin : x.s ≤ c.pos ∧ c.stop ≤ x.e) (hne : c.pos < c.stop) :
    dropped ivs c = false := by
  rw [dropped_eq_false]
  intro i hi
  have h := (respects_iff ivs untouched).1 hr i hi x hx
  simp only [clearOf, Bool.or_eq_true, beq_iff_eq, decide_eq_true_eq] at h
  omega

/-- and after any number of changes: it is still there, exactly as often as before -/
theorem untouched_declaration_keeps_comments_all (changes : List (List Iv)) (untouched : List Extent) (x : Extent)
    (hr : ∀ ivs ∈ changes, respects ivs untouched = true) (hx : x ∈ untouched) (cs : List Comment) (c : Comment)
    (hin : x.s ≤ c.pos ∧ c.stop ≤ x.e) (hne : c.pos < c.stop) :
    (changes.foldl (fun acc ivs => filterComments ivs acc) cs).count c = cs.count c := by
  refine List.foldlRecOn (motive := fun acc : List Comment => acc.count c = cs.count c) changes _ rfl fun acc h ivs hivs => ?_
  have hd := untouched_declaration_keeps_comments ivs untouched x c (hr ivs hivs) hx hin hne
  rw [← h, filterComments, List.count_filter]
  simp [hd]

/-- the witness of the repaired defect F21: an interval that starts in one rewritten declaration and ends in another
reaches into the untouched declaration between them, and its comment is dropped -/
example : respects [⟨417, 491⟩] [⟨430, 470⟩] = false ∧ dropped [⟨417, 491⟩] ⟨437, 455, "// free-standing 6"⟩ = true := by decide

/-- an interval that starts at NoPos (what astdiff reports for nodes without a position, e.g. a
freshly added import) removes no comment -/
theorem nopos_interval_ignored (e : Nat) (c : Comment) : inside ⟨0, e⟩ c = false := by
  simp [inside]

/-- so a comment is kept when every interval starts at NoPos or after the comment does: the file's header and package
comments, which precede every node with a position -/
theorem before_all_nodes_survives (ivs : List Iv) (c : Comment)
    (h : ∀ i ∈ ivs, i.s = 0 ∨ c.pos < i.s) : dropped ivs c = false :=
  (dropped_eq_false ivs c).2 fun i hi => (h i hi).imp_right Or.inl

mutual
/-- the copy a metavariable produces never carries a comment: comment text cannot be duplicated
by using a metavariable several times -/
theorem copy_no_comments (fb : Bool) : ∀ v, noComments (copyV fb v) = true
  | .pos _ _ | .str _ | .int _ | .bool _ | .nilP _ | .nilI _ | .nilS _ => by simp [copyV, noComments]
  | .iface i v => by simp [copyV, noComments, copy_no_comments fb v]
  | .slice e vs => by simp [copyV, noComments, copyL_no_comments fb vs]
  | .ptr t id fs => by
      unfold copyV
      by_cases h : ignoredPtr t = true
      · simp [h, noComments]
      · have ht : t ≠ "ast.CommentGroup" := by
          intro hh; apply h; simp [ignoredPtr, hh]
        simp [h, noComments, ht, copyL_no_comments fb fs]
theorem copyL_no_comments (fb : Bool) : ∀ vs, noCommentsL (copyVs fb vs) = true
  | [] => by simp [copyVs, noCommentsL]
  | v :: vs => by simp [copyVs, noCommentsL, copy_no_comments fb v, copyL_no_comments fb vs]
end

/-- non-vacuity: a comment inside a rewritten region is dropped; one between two regions (an
elided run) and one covered only by a NoPos interval are kept -/
example : filterComments [⟨10, 20⟩, ⟨30, 40⟩, ⟨0, 9⟩]
    [⟨1, 8, "//go:build x"⟩, ⟨12, 18, "/* in rewritten */"⟩, ⟨22, 28, "/* in elided */"⟩, ⟨50, 60, "// elsewhere"⟩]
    = [⟨1, 8, "//go:build x"⟩, ⟨22, 28, "/* in elided */"⟩, ⟨50, 60, "// elsewhere"⟩] := by decide

/-- **astdiff invents no position.** Every region `Snapshot.Diff` reports to the changelog is made of the
end points of the old snapshot's own extent and of positions stored in the old snapshot (the Pos/End of a
node, a valid token.Pos field, the Pos/End of a comment the comment map associates with a node) — whatever the
new tree is. `P` is any predicate on positions that the old snapshot satisfies throughout. -/
theorem reported_regions_are_made_of_old_positions (P : Nat → Prop) (old new : AD.AV)
    (hroot : P old.pos ∧ P old.stop) (hold : AD.AllPos (AD.flowOf P) old) :
    ∀ r ∈ (AD.diff old new).ch, P r.pos ∧ P r.stop :=
  AD.walk_P (AD.flowOf P) old _ new hroot hold

/-- **Untouched neighbours are left alone.** In a list of nodes (the declarations of a file, the statements
of a block): when every element the edit script does not pair as identical lies, with the region allotted to it, on
one side of a stretch `[lo, hi)` — the extent of a declaration paired as identical — no region reported for the list
reaches into that stretch, whatever the new list is. (`AD.Sep` speaks about the old snapshot and the edit script only; the
driver evaluates its decidable form `AD.sepB` on the declarations of every real snapshot.) -/
theorem untouched_neighbours_left_alone (lo hi : Nat) (kids : List AD.AV) (regs : List AD.Rg) (fts : List AD.Fate)
    (new : List AD.AV) (hsep : AD.sepB lo hi kids regs fts = true) :
    ∀ r ∈ (AD.walkFates regs fts kids new).1, r.stop ≤ lo ∨ hi ≤ r.pos :=
  AD.walkFates_clear lo hi kids regs fts new (AD.sepB_sound lo hi kids regs fts hsep)

/-- **Unchanged syntax reports nothing**: when the new tree agrees with the old snapshot up to positions and
comments (`AD.Same`), `Snapshot.Diff` reports no region at all — for trees of every size, through
`diff.Difference`, `alignSlices` and `compareNodes` as they are. -/
theorem unchanged_syntax_reports_nothing (old new : AD.AV) (h : AD.Same old new) : (AD.diff old new).ch = [] :=
  AD.walk_same old _ new h

/-- in particular a tree compared with itself: every value agrees with itself (`AD.same_refl`), so the hypothesis above is
satisfiable for every tree -/
theorem same_tree_reports_nothing (v : AD.AV) : (AD.diff v v).ch = [] :=
  unchanged_syntax_reports_nothing v v (AD.same_refl v)

/-- and `compareNodes` finds such trees equal, so an untouched element of a list can be paired as identical -/
theorem unchanged_syntax_compares_equal (old new : AD.AV) (h : AD.Same old new) : (AD.cmp old new).equal = true :=
  AD.Res.equal_of_diff (AD.cmp_same old new h)

/-- **The script of `diff.Difference` accounts for both lists completely**, whatever the comparison says and
whether or not its search budget ran out. -/
theorem list_diff_accounts_for_both_lists (nx ny : Nat) (f : Int → Int → AD.Res) :
    AD.lenX (AD.difference nx ny f).1 = nx ∧ AD.lenY (AD.difference nx ny f).1 = ny :=
  AD.difference_len nx ny f

/-- **Declarations that were not rewritten are paired with their partners**, whether or not the list changes its length
(import declarations added, merged or removed in front of the others): `σ` pairs the elements that stayed as they were, up
to positions and comments, with their partners in the new list, strictly increasing; if these are the only identical pairs
(no twins) and no more than 63 new elements stand before the first partner and between the partners of two consecutive
ones (`hrun`: for the first pair every `b ≤ k` qualifies), `alignSlices` gives each of them the fate "identical to its
partner". -/
theorem untouched_elements_paired_with_partners (old new : List AD.AV) (σ : Nat → Option Nat)
    (hin : ∀ i k, i < old.length → σ i = some k → k < new.length)
    (hsame : ∀ (i k : Nat) (f t : AD.AV), old[i]? = some f → new[k]? = some t → σ i = some k → AD.Same f t)
    (htwins : ∀ (i k : Nat) (f t : AD.AV), old[i]? = some f → new[k]? = some t → σ i ≠ some k → (AD.cmp f t).equal = false)
    (hmono : ∀ i i' k k', i < i' → i' < old.length → σ i = some k → σ i' = some k' → k < k')
    (hrun : ∀ i k b, i < old.length → σ i = some k → b ≤ k → (∀ i' k', i' < i → σ i' = some k' → k' < b) → k - b < 64) :
    ∀ i k, i < old.length → σ i = some k →
      (AD.fates (AD.alignSlices (AD.cmpRows old new) old.length new.length).1 0)[i]? = some (.same k) := by
  refine AD.alignSlices_anchors (AD.cmpRows old new) old.length new.length σ (fun i k hi hs => ?_) (fun i k hi hk hs => ?_)
    hmono hrun
  · have hk := hin i k hi hs
    rw [AD.lookup_cmpRows_lt old new hi hk]
    exact ⟨hk, unchanged_syntax_compares_equal _ _ (hsame i k _ _ (List.getElem?_eq_getElem hi) (List.getElem?_eq_getElem hk) hs)⟩
  · rw [AD.lookup_cmpRows_lt old new hi hk]
    exact htwins i k _ _ (List.getElem?_eq_getElem hi) (List.getElem?_eq_getElem hk) hs

/-- **In particular with themselves**, in a list of nodes of which any number were rewritten in place (`kept i = false`):
every other element, unchanged up to positions and comments, gets the fate "identical to element `i` of the new list" from
`alignSlices`, provided no element of the old list is identical to a *different* element of the new list (twins) and fewer
than 64 rewritten elements stand in a row (the look-ahead). -/
theorem untouched_elements_paired_with_themselves (old new : List AD.AV) (kept : Nat → Bool)
    (hlen : old.length = new.length)
    (hk : ∀ (i : Nat) (f t : AD.AV), old[i]? = some f → new[i]? = some t → kept i = true → AD.Same f t)
    (hnk : ∀ (i : Nat) (f t : AD.AV), old[i]? = some f → new[i]? = some t → kept i = false → (AD.cmp f t).equal = false)
    (htwins : ∀ (i k : Nat) (f t : AD.AV), old[i]? = some f → new[k]? = some t → i ≠ k → (AD.cmp f t).equal = false)
    (hrun : ∀ i a, i < old.length → kept i = true → a ≤ i → (∀ t, a ≤ t → t < i → kept t = false) → i - a < 64) :
    ∀ i, i < old.length → kept i = true →
      (AD.fates (AD.alignSlices (AD.cmpRows old new) old.length new.length).1 0)[i]? = some (.same i) := by
  intro i hi hki
  -- the pairing: a kept element with the element in its place
  have hσ : ∀ {i k : Nat}, (if kept i = true then some i else none) = some k ↔ kept i = true ∧ i = k := by simp
  refine untouched_elements_paired_with_partners old new (fun i => if kept i then some i else none) (fun i k hi hs => ?hin)
    (fun i k f t hf ht hs => ?hsame) (fun i k f t hf ht hs => ?htwins) (fun i i' k k' hlt hi' hs hs' => ?hmono)
    (fun i k b hi hs hbk hbelow => ?hrun) i i hi (hσ.2 ⟨hki, rfl⟩)
  case hin =>
    obtain ⟨-, rfl⟩ := hσ.1 hs
    omega
  case hsame =>
    obtain ⟨h, rfl⟩ := hσ.1 hs
    exact hk i f t hf ht h
  case htwins =>
    by_cases hik : i = k
    · subst hik
      exact hnk i f t hf ht (Bool.eq_false_iff.2 fun h => hs (hσ.2 ⟨h, rfl⟩))
    · exact htwins i k f t hf ht hik
  case hmono =>
    obtain ⟨-, rfl⟩ := hσ.1 hs
    obtain ⟨-, rfl⟩ := hσ.1 hs'
    exact hlt
  case hrun =>
    obtain ⟨h, rfl⟩ := hσ.1 hs
    refine hrun i b hi h hbk fun t ht1 ht2 => Bool.eq_false_iff.2 fun hkt => ?_
    have := hbelow t t ht2 (hσ.2 ⟨hkt, rfl⟩)
    omega

/-- **Paired as identical only if compared equal.** The converse direction: whatever the two lists look like, `alignSlices`
gives element `i` of the old list the fate "identical to element `j` of the new list" only when `compareNodes` found the two
equal (the script of `alignSlices` has its identities on equal cells — `AD.alignSlices_script` — since `diff.Difference` puts
them there and the anchoring looks for equal cells). So a declaration that compares unequal is never paired as identical. -/
theorem paired_identical_only_if_compared_equal (old new : List AD.AV) (i j : Nat) (f t : AD.AV)
    (hf : old[i]? = some f) (ht : new[j]? = some t)
    (h : (AD.fates (AD.alignSlices (AD.cmpRows old new) old.length new.length).1 0)[i]? = some (.same j)) :
    (AD.cmp f t).equal = true := by
  have := AD.alignSlices_same_equal (AD.cmpRows old new) old.length new.length i j h
  rwa [AD.lookup_cmpRows old new i j f t hf ht] at this

/-- what `soundOutB` tests: every interval the changelog returned is non-empty and holds changed positions only -/
theorem soundOutB_spec (out plus minus : List Iv) (h : soundOutB out plus minus = true) :
    ∀ iv ∈ out, iv.s < iv.e ∧ ∀ p, iv.s ≤ p → p < iv.e → changedAt plus minus p = true := by
  intro iv hiv
  have h1 := (List.all_eq_true.1 h) iv hiv
  simp only [Bool.and_eq_true, decide_eq_true_eq] at h1
  exact ⟨h1.1, fun p hp1 hp2 => List.all_eq_true.1 h1.2 p (by rw [List.mem_range'_1]; omega)⟩

/-- a region that ends at or before `lo` or starts at or after `hi` (the conclusion of `untouched_neighbours_left_alone`)
is `strongClear` of the extent `[lo, hi)`: the hypothesis of `changelog_keeps_clear` below -/
theorem clear_region_strong (lo hi : Nat) (r : AD.Rg) (h : r.stop ≤ lo ∨ hi ≤ r.pos) :
    strongClear ⟨r.pos, r.stop⟩ ⟨lo, hi⟩ = true := by
  unfold strongClear
  simp only [Bool.or_eq_true, decide_eq_true_eq]
  exact Or.inl h

/-- **From the regions astdiff reports to the intervals the comment filter sees.** `ChangedIntervals` is the set of
positions recorded as changed minus those recorded as unchanged (`changedAt`; the intervals the real changelog returns
are tested against it on every run: `soundOutB`, and compared with the model's own canonical list). If every recorded
region keeps clear of a non-empty extent (`strongClear`: a region starting at NoPos is not exempt, an empty or inverted
one is), every interval the changelog returns is `clearOf` the extent — what the filter needs, which skips an interval
starting at NoPos — whatever was recorded as unchanged. -/
theorem changelog_keeps_clear (plus minus out : List Iv) (x : Extent) (hx : x.s < x.e)
    (hs : soundOutB out plus minus = true) (hc : ∀ r ∈ plus, strongClear r x = true) :
    ∀ iv ∈ out, clearOf iv x = true := by
  intro iv hiv
  obtain ⟨hval, hpos⟩ := soundOutB_spec out plus minus hs iv hiv
  unfold clearOf
  simp only [Bool.or_eq_true, beq_iff_eq, decide_eq_true_eq]
  refine Decidable.byContradiction fun hn => ?_
  -- otherwise a position lies in the interval and in the extent; the region that covers it is not clear of the extent
  have hp := hpos (max iv.s x.s) (by omega) (by omega)
  simp only [changedAt, Bool.and_eq_true, covers, List.any_eq_true, decide_eq_true_eq] at hp
  obtain ⟨⟨r, hr, hrp⟩, _⟩ := hp
  have hcl := hc r hr
  simp only [strongClear, Bool.or_eq_true, decide_eq_true_eq] at hcl
  omega

/-- the same for a list of extents: `respects`, the premise of `untouched_declaration_keeps_comments` -/
theorem changelog_respects (plus minus out : List Iv) (untouched : List Extent)
    (hne : ∀ x ∈ untouched, x.s < x.e) (hs : soundOutB out plus minus = true)
    (hc : ∀ r ∈ plus, ∀ x ∈ untouched, strongClear r x = true) : respects out untouched = true :=
  (respects_iff out untouched).2 fun iv hiv x hx =>
    changelog_keeps_clear plus minus out x (hne x hx) hs (fun r hr => hc r hr x hx) iv hiv

/-- non-vacuity: two declarations, the first paired as identical, the second deleted; the second and its
region `[20, 40)` lie right of the first one's extent `[10, 20)` -/
example : AD.sepB 10 20
    [.mk "*ast.GenDecl" 0 true 10 20 [] false "" false [], .mk "*ast.FuncDecl" 0 true 22 40 [] false "" false []]
    [⟨5, 22⟩, ⟨20, 40⟩] [.same 0, .deleted] = true := by decide

/-- **A node edited in place keeps the comments around it** (F27).  When a pointer or interface value is
compared with the value of one and the same node object (`sameNodeB`: the package name a change renamed,
the parent of a replaced node), the new snapshot records for it the comment groups the old snapshot
recorded, whether or not the node compared equal.  (The repair of F27 rests on it: the next `Diff` takes from these
groups where the region of the neighbouring field begins.) -/
theorem edited_in_place_keeps_comments (R : AD.Rg) (ty : String) (k : Nat) (isn : Bool) (p e : Nat)
    (cms : List AD.CG) (pl : String) (en : Bool) (kids : List AD.AV) (to : AD.AV)
    (hk : (k == AD.kPtr || k == AD.kIface) = true) (hty : (ty != to.ty) = false)
    (h1 : (ty == AD.tyObject) = false) (h2 : (ty == AD.tyCommentGroup) = false) (h3 : (ty == AD.tyPos) = false)
    (hnn : to.isNil = false) (hs : AD.sameNodeB isn k pl kids to = true) :
    (AD.walk R (.mk ty k isn p e cms false pl en kids) to).to.cms = cms := by
  rw [AD.walk.eq_def]
  simp only [hty, h1, h2, h3, hk, hnn, hs, Bool.false_eq_true, ↓reduceIte, Bool.or_true]
  cases to with
  | mk t k' n p' e' c nl pl' en' ks => simp [AD.AV.withCms, AD.AV.withKids, AD.AV.cms]

/-- non-vacuity: the identifier of the package clause, renamed in place (object 7 in both snapshots) -/
example : AD.sameNodeB true AD.kPtr "@7" [.mk "ast.Ident" 3 false 0 0 [] false "" false []]
    (.mk "*ast.Ident" 0 true 9 10 [] false "@7" false [.mk "ast.Ident" 3 false 0 0 [] false "" false []]) = true := by decide

/-- **The comments above the package clause survive the filter.** When every interval `ChangedIntervals` returns starts
at `NoPos` - such an interval the filter skips: the phantom region astdiff reports for the comment groups an earlier change
removed starts there - or at or after the `package` keyword (evaluated by the driver on the intervals of every real step),
no comment that ends at or before the keyword is dropped: copyright, build constraints and the package's doc comment stay. -/
theorem header_comments_survive_the_filter (hi : Nat) (ivs : List Iv) (cs : List Comment) (c : Comment)
    (hmem : c ∈ cs) (hc : c.pos < c.stop) (hh : c.stop ≤ hi) (h : startsClearB hi ivs = true) :
    c ∈ filterComments ivs cs := by
  refine (survives_iff ivs cs c).2 ⟨hmem, before_all_nodes_survives ivs c fun i hi' => ?_⟩
  have hs := List.all_eq_true.1 h i hi'
  simp only [Bool.or_eq_true, beq_iff_eq, decide_eq_true_eq] at hs
  omega

/-- non-vacuity: a phantom interval from NoPos and a real one after the package clause at 40 -/
example : startsClearB 40 [⟨0, 332⟩, ⟨349, 360⟩] = true := by decide

end Gopatch.C17
