import GopatchModel.Spec.CliSpec
import GopatchModel.Write
namespace Gopatch.C16
open Gopatch

def containsSub (s sub : String) : Bool := (s.splitOn sub).length > 1

theorem error_makes_exit1 (o : Opts) (dt) (a b : List FileIn) (f : FileIn)
    (h : errorsOf (stepFile o dt f) ≠ []) : exitOf (runFiles o dt (a ++ f :: b)) = 1 := by
  rw [exitOf_eq_one, Ne, errorsOf_runFiles_eq_nil]
  exact fun hall => h (hall f (by simp))

/-- An unreadable file, a file that does not parse, a failed rewrite and a failed
re-format each contribute an error (so exit status is 1 wherever the file sits in the run). -/
theorem failures_reported (o : Opts) (dt) (f : FileIn)
    (h : f.content = none ∨ f.parses = false ∨
         ((o.skipGenerated && f.generated) = false ∧
           ((∃ m, f.apply = .replaceErr m) ∨ (∃ m, f.apply = .formatErr m)))) :
    errorsOf (stepFile o dt f) ≠ [] := by
  rw [Ne, errorsOf_stepFile_eq_nil]
  rintro ⟨⟨c, hc⟩, hp, hok⟩
  rcases h with h | h | ⟨hg, ⟨m, hm⟩ | ⟨m, hm⟩⟩
  · simp [hc] at h
  · simp [hp] at h
  · simp [hg, hm] at hok
  · simp [hg, hm] at hok

/-- a file that does not parse is skipped without touching anything else: its own step
emits nothing but the error -/
theorem parse_failure_isolated (o : Opts) (dt) (f : FileIn) (c : String)
    (hc : f.content = some c) (hp : f.parses = false) :
    stepFile o dt f = [.error s!"could not parse {f.abs}"] := by
  unfold stepFile; simp [hc, hp]

/-- exit status 0 means every file was read, parsed and either patched, unmatched or
legitimately skipped as generated -/
theorem exit0_all_processed (o : Opts) (dt) (fs : List FileIn) (h : exitOf (runFiles o dt fs) = 0) :
    ∀ f ∈ fs, (∃ c, f.content = some c) ∧ f.parses = true ∧
      ((o.skipGenerated && f.generated) = true ∨ f.apply = .noMatch ∨ ∃ b cs, f.apply = .ok b cs) := by
  intro f hf
  exact errorsOf_stepFile_eq_nil.1 ((errorsOf_runFiles_eq_nil fs).1 (exitOf_eq_zero.1 h) f hf)

theorem runSteps_cons (d : Disk) (s : WStep) (ss : List WStep) : runSteps d (s :: ss) = runSteps (wstep d s) ss := rfl

theorem runSteps_append (d : Disk) (a b : List WStep) : runSteps d (a ++ b) = runSteps (runSteps d a) b :=
  List.foldl_append

theorem wstep_target {d : Disk} {s : WStep} (h : s ≠ .rename) : (wstep d s).target = d.target := by
  cases s <;> first | rfl | exact absurd rfl h

theorem target_kept (steps : List WStep) (h : ∀ s ∈ steps, s ≠ WStep.rename) (d : Disk) :
    (runSteps d steps).target = d.target :=
  List.foldlRecOn (motive := fun d' : Disk => d'.target = d.target) steps wstep rfl
    fun _ hd s hs => (wstep_target (h s hs)).trans hd

/-- no step before the rename touches the target -/
theorem preSteps_prefix_target (d : Disk) (chunks : List String) (k : Nat) :
    (runSteps d ((preSteps chunks).take k)).target = d.target := by
  apply target_kept
  rintro s hs rfl
  simpa [preSteps] using List.mem_of_mem_take hs

theorem writes_tmp (cs : List String) (d : Disk) (t : List String) (h : d.tmp = some t) :
    runSteps d (cs.map .write) = { d with tmp := some (t ++ cs) } := by
  induction cs generalizing d t with
  | nil => cases d; simp_all [runSteps]
  | cons c cs ih =>
    rw [List.map_cons, runSteps_cons, ih (wstep d (.write c)) (t ++ [c]) (by simp [wstep, h])]
    simp [wstep]

theorem preSteps_result (orig chunks : List String) :
    runSteps { target := orig, tmp := none } (preSteps chunks) = { target := orig, tmp := some chunks } := by
  rw [preSteps, runSteps_cons, runSteps_append, writes_tmp chunks (wstep ⟨orig, none⟩ .create) [] rfl]
  rfl

/-- **Atomicity.** Whatever the number of steps completed before a fault or a crash, the
target file holds either its original content or the complete new content. -/
theorem atomic_write (orig chunks : List String) (k : Nat) :
    let d := runSteps { target := orig, tmp := none } ((atomicSteps chunks).take k)
    d.target = orig ∨ d.target = chunks := by
  show (runSteps _ _).target = orig ∨ (runSteps _ _).target = chunks
  by_cases hk : k ≤ (preSteps chunks).length
  · rw [atomicSteps, List.take_append_of_le_length hk]
    exact .inl (preSteps_prefix_target _ chunks k)
  · rw [List.take_of_length_le (by simp [atomicSteps]; omega), atomicSteps, runSteps_append, preSteps_result]
    exact .inr rfl

/-- after a fault the error path removes the temporary file and the target is the original -/
theorem fault_keeps_original (orig chunks : List String) (k : Nat) (hk : k ≤ (preSteps chunks).length) :
    (cleanup (runSteps { target := orig, tmp := none } ((atomicSteps chunks).take k))) = { target := orig, tmp := none } := by
  rw [atomicSteps, List.take_append_of_le_length hk, cleanup, preSteps_prefix_target]

/-- The behaviour before the `fix:` (os.WriteFile in place) does not have the property:
a fault right after the truncation leaves an empty file. -/
theorem inplace_not_atomic :
    ∃ (orig chunks : List String) (k : Nat),
      let t := ((inplaceSteps chunks).take k).foldl istep orig
      t ≠ orig ∧ t ≠ chunks :=
  ⟨["package a\n"], ["package b\n"], 1, by decide⟩

end Gopatch.C16
