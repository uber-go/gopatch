import GopatchModel.Spec.Sound
import GopatchModel.Spec.Typing
import GopatchModel.FileM
namespace Gopatch.C03
open Gopatch

/-- a metavariable on the '+' side that was never bound is an error, not a rewrite -/
theorem unbound_metavar_errors (mt : Meta) (assoc : List (Nat × Nat)) (id : Nat) (fs : List V)
    (d : Data) (fb : Bool) (k : Kind)
    (hm : mt.look (identName fs) = some k) (hu : d.lookMv (identName fs) = none) :
    ∃ e, replaceV mt assoc (.ptr "ast.Ident" id fs) d fb = .error e := by
  simp [replaceV, ignoredPtr, hm, hu]

/-- every occurrence of a bound metavariable on the '+' side is replaced by a copy of the code
it stood for at this site -/
theorem metavar_replaced_by_copy (mt : Meta) (assoc : List (Nat × Nat)) (id : Nat) (fs : List V)
    (d : Data) (fb : Bool) (k : Kind) (c : V)
    (hm : mt.look (identName fs) = some k) (hb : d.lookMv (identName fs) = some c) :
    replaceV mt assoc (.ptr "ast.Ident" id fs) d fb = .ok (copyV fb c) := by
  simp [replaceV, ignoredPtr, hm, hb]

mutual
/-- the copy is syntactically identical to the captured code (the matcher of the captured value
accepts it: same tree up to comments, objects and position values) -/
theorem copy_is_identical : ∀ v, eqvM v (copyV true v) = true
  | .pos b k => by cases b <;> simp [copyV, eqvM]
  | .str _ | .int _ | .bool _ => by simp [copyV, eqvM]
  | .nilP _ | .nilI _ => by simp [copyV, eqvM, V.isNil]
  | .nilS e => by
      unfold copyV eqvM
      by_cases h : dotsElem e = true <;> simp [h, V.isNil]
  | .iface i v => by
      unfold copyV eqvM
      exact copy_is_identical v
  | .slice e vs => by
      unfold copyV eqvM
      exact copyL_is_identical vs
  | .ptr t id fs => by
      unfold copyV
      by_cases h : ignoredPtr t = true
      · simp only [h, ↓reduceIte]
        unfold eqvM; simp [h]
      · simp only [h, Bool.false_eq_true, ↓reduceIte]
        unfold eqvM; simp [copyL_is_identical fs]
theorem copyL_is_identical : ∀ vs, eqvMs vs (copyVs true vs) = true
  | [] => by simp [copyVs, eqvMs]
  | v :: vs => by simp [copyVs, eqvMs, copy_is_identical v, copyL_is_identical vs]
end

mutual
/-- every node is freshly built (identity 0) -/
def allFresh : V → Bool
  | .iface _ v => allFresh v
  | .slice _ vs => allFreshL vs
  | .ptr _ id fs => id == 0 && allFreshL fs
  | _ => true
def allFreshL : List V → Bool
  | [] => true
  | v :: vs => allFresh v && allFreshL vs
end

mutual
/-- every node of the copy is freshly built (identity 0, where the nodes of the file carry their own): the copy shares
no node with the file -/
theorem copy_is_fresh (fb : Bool) : ∀ v, allFresh (copyV fb v) = true
  | .pos _ _ | .str _ | .int _ | .bool _ | .nilP _ | .nilI _ | .nilS _ => by simp [copyV, allFresh]
  | .iface i v => by unfold copyV allFresh; exact copy_is_fresh fb v
  | .slice e vs => by unfold copyV allFresh; exact copyL_is_fresh fb vs
  | .ptr t id fs => by
      unfold copyV
      by_cases h : ignoredPtr t = true
      · simp [h, allFresh]
      · simp only [h, Bool.false_eq_true, ↓reduceIte]
        unfold allFresh; simp [copyL_is_fresh fb fs]
theorem copyL_is_fresh (fb : Bool) : ∀ vs, allFreshL (copyVs fb vs) = true
  | [] => by simp [copyVs, allFreshL]
  | v :: vs => by simp [copyVs, allFreshL, copy_is_fresh fb v, copyL_is_fresh fb vs]
end

/-- sites are rewritten independently: the value generated for a site is a function of that
site's own bindings only -/
theorem site_uses_own_bindings (c : Change) (assoc : List (Nat × Nat)) (s1 s2 : Site) (h : s1.data = s2.data) :
    nodeReplace c assoc s1.data = nodeReplace c assoc s2.data := by rw [h]

/-- a site whose replacement can be generated but is not admissible in its slot -/
def Refused (c : Change) (assoc : List (Nat × Nat)) (s : Site) : Prop :=
  ∃ give, nodeReplace c assoc s.data = .ok give ∧ assignable give s.slotTy = false

/-- **A site that is left alone does not disturb the others.** Wherever it stands among the sites of a change, a site
whose replacement is not admissible may as well not be there: the loop ends the same way, with the same tree - what it
does to the sites before and after it does not depend on it. -/
theorem refused_site_is_as_good_as_absent (c : Change) (assoc : List (Nat × Nat)) (s : Site) (hs : Refused c assoc s) :
    ∀ (a b : List Site) (tree : V), applySites c assoc (a ++ s :: b) tree = applySites c assoc (a ++ b) tree
  | [], b, tree => by
    obtain ⟨give, hg, hn⟩ := hs
    simp [applySites, hg, hn, bind, Except.bind]
  | x :: a, b, tree => by
    cases hx : nodeReplace c assoc x.data with
    | error e => simp [applySites, hx, bind, Except.bind]
    | ok gx =>
      simp only [List.cons_append, applySites, hx, bind, Except.bind]
      exact refused_site_is_as_good_as_absent c assoc s hs a b _

/-- a change none of whose sites admits its replacement leaves the tree as it is, and does not fail -/
theorem all_sites_inadmissible_is_a_noop (c : Change) (assoc : List (Nat × Nat)) :
    ∀ (sites : List Site) (tree : V), (∀ s ∈ sites, Refused c assoc s) → applySites c assoc sites tree = .ok tree
  | [], tree, _ => by simp [applySites, pure, Except.pure]
  | s :: ss, tree, h => by
    exact (refused_site_is_as_good_as_absent c assoc s (h s List.mem_cons_self) [] ss tree).trans
      (all_sites_inadmissible_is_a_noop c assoc ss tree (fun x hx => h x (List.mem_cons_of_mem _ hx)))

/-- a site whose instantiated replacement is not admissible in its position is left unchanged, silently (the only
silent skip of the replacement loop) -/
theorem skipped_iff_not_assignable (c : Change) (assoc : List (Nat × Nat)) (s : Site) (tree : V) (give : V)
    (hg : nodeReplace c assoc s.data = .ok give) (hn : assignable give s.slotTy = false) :
    applySites c assoc [s] tree = .ok tree :=
  all_sites_inadmissible_is_a_noop c assoc [s] tree (fun x hx => by cases List.mem_singleton.1 hx; exact ⟨give, hg, hn⟩)

/-- non-vacuity: a selector generated for a slot that holds a name (`-Name` / `+defaults.Name` at a field name) is refused -/
def exChange : Change :=
  { (default : Change) with plus := { pkg := "", imports := [], kind := "expr", node := .ptr "ast.SelectorExpr" 7 [.str "defaults", .str "Name"] } }
def exSite : Site := { parent := 3, field := 1, index := none, slotTy := "*ast.Ident", data := default }
example : Refused exChange [] exSite := ⟨_, rfl, by decide +kernel⟩

/-- '+' tokens that are not metavariables appear verbatim: scalars are reproduced as they are -/
theorem scalars_verbatim (mt : Meta) (assoc : List (Nat × Nat)) (d : Data) (fb : Bool) (s : String) (n : Int) (b : Bool) :
    replaceV mt assoc (.str s) d fb = .ok (.str s) ∧ replaceV mt assoc (.int n) d fb = .ok (.int n) ∧
    replaceV mt assoc (.bool b) d fb = .ok (.bool b) := by
  simp [replaceV]

/-- what matching guarantees about the data store it returns: a metavariable stands for non-nil code of its
declared kind; a recorded loop header knows where its body goes -/
def GoodData (mt : Meta) (d : Data) : Prop :=
  (∀ n c k, d.lookMv n = some c → mt.look n = some k → kindOK k c = true ∧ c.isNil = false) ∧
  (∀ k fd, d.lookFor k = some fd → bodyIdxOf fd.ty = some fd.bodyIdx ∧ fd.bodyIdx < fd.fields.length)

mutual
/-- every elision of the '+' pattern has a counterpart that captured a run at this site -/
def dotsBound (assoc : List (Nat × Nat)) (d : Data) : V → Bool
  | .iface _ v => dotsBound assoc d v
  | .slice e vs => if dotsElem e then dotsBoundSeq assoc d e vs else dotsBoundL assoc d vs
  | .ptr _ _ fs => dotsBoundL assoc d fs
  | _ => true
def dotsBoundL (assoc : List (Nat × Nat)) (d : Data) : List V → Bool
  | [] => true
  | v :: vs => dotsBound assoc d v && dotsBoundL assoc d vs
def dotsBoundSeq (assoc : List (Nat × Nat)) (d : Data) (e : String) : List V → Bool
  | [] => true
  | p :: ps =>
      (match dotsKeyOf e p with
       | some k => ((assocLook assoc k).bind d.lookDots).isSome
       | none => dotsBound assoc d p) && dotsBoundSeq assoc d e ps
end

theorem kindOK_copy (k : Kind) (c : V) (h : kindOK k c = true) (hn : c.isNil = false) :
    kindOK k (copyV true c) = true ∧ (copyV true c).isNil = false := by
  have hd := kindOK_dynOK k c h hn
  cases c <;> simp only [dynOK, Bool.not_eq_true', reduceCtorEq] at hd
  rw [copyV.eq_def]
  simp only [hd, Bool.false_eq_true, ↓reduceIte]
  exact ⟨by cases k <;> simpa [kindOK] using h, rfl⟩

theorem bind_ok {α β} {x : R α} {f : α → R β} {b : β} (h : x.bind f = .ok b) : ∃ a, x = .ok a ∧ f a = .ok b := by
  cases x with
  | error e => cases h
  | ok a => exact ⟨a, rfl, h⟩

mutual
/-- **The replacement is the '+' pattern instantiated with the site's bindings.** Whatever `Replace` generates for a
site is an instance (`Inst`: the same tree up to positions, comments and resolved objects) of the '+' pattern under
every substitution that agrees with the site's data store: each metavariable stands for (a copy identical to) the code
it was bound to at this site, everything else is the pattern's own syntax. -/
theorem replaceV_inst (mt : Meta) (assoc : List (Nat × Nat)) (σ : Subst) : ∀ (p : V) (d : Data) (r : V),
    GoodData mt d → Ext d σ → dotsBound assoc d p = true → replaceV mt assoc p d true = .ok r → Inst mt σ p r
  | .pos pv pk, d, r, _, _, _, h => by
    unfold replaceV at h
    cases pv with
    | false => cases h; exact .pos _ _ _
    | true =>
      simp only [Bool.not_true, Bool.false_eq_true, ↓reduceIte] at h
      split at h <;> (cases h; exact .pos _ _ _)
  | .str _, _, _, _, _, _, h | .int _, _, _, _, _, _, h | .bool _, _, _, _, _, _, h => by
    unfold replaceV at h; cases h; constructor
  | .nilP t, d, r, _, _, _, h => by unfold replaceV at h; cases h; exact .nilP _ _ rfl
  | .nilI i, d, r, _, _, _, h => by unfold replaceV at h; cases h; exact .nilI _ _ rfl
  | .nilS e, d, r, _, _, _, h => by
    unfold replaceV at h
    cases h
    cases he : dotsElem e
    · exact .nilS _ _ he rfl
    · exact .nilSNil _ _ he
  | .iface i pv, d, r, hg, hx, hb, h => by
    unfold replaceV at h
    simp only [dotsBound] at hb
    obtain ⟨x, hr, h⟩ := bind_ok h
    split at h
    · cases h
      exact .iface _ _ _ _ (replaceV_inst mt assoc σ pv d x hg hx hb hr)
    · cases h
  | .slice e ps, d, r, hg, hx, hb, h => by
    unfold replaceV at h
    simp only [dotsBound] at hb
    cases he : dotsElem e
    · simp only [he, Bool.false_eq_true, ↓reduceIte] at h hb
      obtain ⟨items, hr, h⟩ := bind_ok h
      cases h
      exact .slice _ _ _ _ he (replaceVs_inst mt assoc σ ps d items hg hx hb hr)
    · simp only [he, ↓reduceIte] at h hb
      obtain ⟨⟨items, hasDots⟩, hr, h⟩ := bind_ok h
      have ih := replaceSeq_inst mt assoc σ e ps d items hasDots hg hx hb hr
      split at h
      · rename_i hc
        cases h
        simp only [Bool.and_eq_true, List.isEmpty_iff] at hc
        rw [hc.2] at ih
        exact .sliceDotsNil _ _ _ he ih
      · cases h
        exact .sliceDots _ _ _ _ he ih
  | .ptr t id fs, d, r, hg, hx, hb, h => by
    unfold replaceV at h
    simp only [dotsBound] at hb
    split at h
    · rename_i hi -- a comment group or an object
      cases h
      exact .ignoredPtr _ _ _ _ hi
    · split at h
      · cases h -- an elision outside a list is refused
      · split at h
        · rename_i hm -- a metavariable
          simp only [Bool.and_eq_true, beq_iff_eq] at hm
          obtain ⟨rfl, hsome⟩ := hm
          obtain ⟨k, hk⟩ := Option.isSome_iff_exists.1 hsome
          split at h
          · rename_i c hl
            cases h
            obtain ⟨hok, hnil⟩ := hg.1 _ c k hl hk
            obtain ⟨hok', hnil'⟩ := kindOK_copy k c hok hnil
            exact .metavar id fs k _ c hk hok' hnil' (hx _ c hl) (copy_is_identical c)
          · cases h
        · rename_i hm
          have hident : t = "ast.Ident" → mt.look (identName fs) = none := by
            rintro rfl
            simpa using hm
          split at h
          · rename_i k hf -- a `for ... {` header
            split at h
            · rename_i fd hl
              obtain ⟨body, hr, h⟩ := bind_ok h
              cases h
              obtain ⟨k', _, hk'⟩ := Option.bind_eq_some_iff.1 hl
              obtain ⟨hbi, hlen⟩ := hg.2 k' fd hk'
              exact .forDots t id fs k fd.ty 0 _ fd.bodyIdx body hf hbi (by simp [hlen])
                (replaceNth_inst mt assoc σ fs 4 d body hg hx hb hr)
            · cases h
          · rename_i hf -- any other node
            obtain ⟨fs', hr, h⟩ := bind_ok h
            cases h
            exact .ptr t id 0 fs fs' hident hf (replaceVs_inst mt assoc σ fs d fs' hg hx hb hr)
termination_by structural p => p
theorem replaceVs_inst (mt : Meta) (assoc : List (Nat × Nat)) (σ : Subst) : ∀ (ps : List V) (d : Data) (rs : List V),
    GoodData mt d → Ext d σ → dotsBoundL assoc d ps = true → replaceVs mt assoc ps d true = .ok rs → InstList mt σ ps rs
  | [], d, rs, _, _, _, h => by unfold replaceVs at h; cases h; exact .nil
  | p :: ps, d, rs, hg, hx, hb, h => by
    unfold replaceVs at h
    simp only [dotsBoundL, Bool.and_eq_true] at hb
    obtain ⟨x, hr, h⟩ := bind_ok h
    split at h
    · cases h
    · obtain ⟨xs, hrs, h⟩ := bind_ok h
      cases h
      exact .cons _ _ _ _ (replaceV_inst mt assoc σ p d x hg hx hb.1 hr) (replaceVs_inst mt assoc σ ps d xs hg hx hb.2 hrs)
termination_by structural ps => ps
theorem replaceSeq_inst (mt : Meta) (assoc : List (Nat × Nat)) (σ : Subst) (e : String) : ∀ (ps : List V) (d : Data) (rs : List V) (b : Bool),
    GoodData mt d → Ext d σ → dotsBoundSeq assoc d e ps = true → replaceSeq mt assoc e ps d true = .ok (rs, b) → InstSeq mt σ e ps rs
  | [], d, rs, b, _, _, _, h => by unfold replaceSeq at h; cases h; exact .nil _
  | p :: ps, d, rs, b, hg, hx, hb, h => by
    unfold replaceSeq at h
    simp only [dotsBoundSeq, Bool.and_eq_true] at hb
    split at h
    · rename_i k hk
      simp only [hk] at hb
      split at h
      · cases h
      · -- the elision is bound (`dotsBound`), so what follows it is generated with a valid fallback position
        rw [hb.1] at h
        obtain ⟨⟨xs, _⟩, hrs, h⟩ := bind_ok h
        cases h
        exact .dots e p k ps _ xs hk (replaceSeq_inst mt assoc σ e ps d xs _ hg hx hb.2 hrs)
    · rename_i hk
      simp only [hk] at hb
      obtain ⟨x, hr, h⟩ := bind_ok h
      split at h
      · cases h
      · obtain ⟨⟨xs, _⟩, hrs, h⟩ := bind_ok h
        cases h
        exact .elem e p x ps xs hk (replaceV_inst mt assoc σ p d x hg hx hb.1 hr)
          (replaceSeq_inst mt assoc σ e ps d xs _ hg hx hb.2 hrs)
termination_by structural ps => ps
theorem replaceNth_inst (mt : Meta) (assoc : List (Nat × Nat)) (σ : Subst) : ∀ (ps : List V) (i : Nat) (d : Data) (r : V),
    GoodData mt d → Ext d σ → dotsBoundL assoc d ps = true → replaceNth mt assoc ps i d true = .ok r → InstNth mt σ ps i r
  | [], i, d, r, _, _, _, h => by unfold replaceNth at h; cases h
  | p :: ps, 0, d, r, hg, hx, hb, h => by
    unfold replaceNth at h
    simp only [dotsBoundL, Bool.and_eq_true] at hb
    exact .here _ _ _ (replaceV_inst mt assoc σ p d r hg hx hb.1 h)
  | p :: ps, i + 1, d, r, hg, hx, hb, h => by
    unfold replaceNth at h
    simp only [dotsBoundL, Bool.and_eq_true] at hb
    exact .there _ _ _ _ (replaceNth_inst mt assoc σ ps i d r hg hx hb.2 h)
termination_by structural ps => ps
end

/-- everything the matcher records keeps the data store good -/
theorem goodData_pushInv (mt : Meta) : PushInv mt (GoodData mt) where
  pos := fun d k h => h
  dots := fun d k run h => h
  mv := by
    intro d name g k h hk hok hnil hnone
    have key : ∀ n c, (d.pushMv name g).lookMv n = some c → ∀ k', mt.look n = some k' → kindOK k' c = true ∧ c.isNil = false :=
      forall_lookMv_pushMv (fun k' hk' => by cases hk'.symm.trans hk; exact ⟨hok, hnil⟩) fun n c hl k' => h.1 n c k' hl
    exact ⟨fun n c k' hl => key n c hl k', h.2⟩
  loop := by
    intro d k t' bi gs gb h hbi hgb
    refine ⟨h.1, ?_⟩
    intro k' fd hl
    simp only [Data.lookFor, Data.pushFor, List.lookup_cons] at hl
    split at hl
    · cases hl
      exact ⟨hbi, (List.getElem?_eq_some_iff.1 hgb).1⟩
    · exact h.2 k' fd hl

theorem goodData_empty (mt : Meta) : GoodData mt Data.empty :=
  ⟨fun _ _ _ h => (nomatch h), fun _ _ h => (nomatch h)⟩

/-- **The rewrite rule.** When the '-' pattern matches a piece of code, that code is an instance of the '-' pattern and
whatever is generated from the '+' pattern at that site is an instance of the '+' pattern — under one and the same
substitution, the site's bindings (`d'.mv`): every metavariable stands for the same code on both sides. (`dotsBound`: every
elision of the '+' side has a counterpart; otherwise the fallback position of what follows is invalid.) -/
theorem rewrite_rule (mt : Meta) (assoc : List (Nat × Nat)) (minus plus g r : V) (d' : Data)
    (hm : matchV mt minus g Data.empty = some d')
    (hb : dotsBound assoc d' plus = true)
    (hr : replaceV mt assoc plus d' true = .ok r) :
    Inst mt d'.mv minus g ∧ Inst mt d'.mv plus r := by
  have run := matchV_run mt minus g Data.empty d' hm
  have hg : GoodData mt d' := run.inv (goodData_pushInv mt) (goodData_empty mt)
  exact ⟨run.inst (Ext.self d'), replaceV_inst mt assoc d'.mv plus d' r hg (Ext.self d') hb hr⟩

end Gopatch.C03
