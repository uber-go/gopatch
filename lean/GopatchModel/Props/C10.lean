import GopatchModel.FileM
import GopatchModel.Spec.Search
import GopatchModel.Spec.Run
namespace Gopatch.C10
open Gopatch

/-- the package clause of the '-' side guards the whole file -/
theorem package_guard (c : Change) (f : FileM) (h1 : c.minus.pkg ≠ "") (h2 : c.minus.pkg ≠ f.pkg) :
    fileMatch c f = none := by
  rw [fileMatch, if_pos (by simp [h1, h2])]

/-- a change whose file matcher fails (a guard that fails, or a pattern that occurs nowhere) does not match the file -/
theorem guard_fails_noop (c : Change) (f : FileM) (h : fileMatch c f = none) :
    (match applyChange c f with | .noMatch => true | _ => false) = true := by
  simp [applyChange, h]

/-- the path must be imported at all -/
theorem import_absent (mt : Meta) (pat : Option String × String) (f : FileM) (d : Data)
    (h : importCandidates f.imports pat.2 = []) : matchImport mt pat f d = none := by
  simp [matchImport, h, firstSome]

/-- a file may import the path several times: the guard holds iff one of those imports has
the stated form -/
theorem import_any_candidate (mt : Meta) (pat : Option String × String) (f : FileM) (d : Data) :
    (matchImport mt pat f d).isSome =
      (importCandidates f.imports pat.2).any (fun fname => (matchSpec mt pat fname d).isSome) := by
  rw [matchImport, firstSome_eq_findSome?, List.isSome_findSome?]

/-- README table, rows 1/2: an unnamed import in the patch matches only an unnamed import -/
theorem unnamed_matches_unnamed (mt : Meta) (path : String) (d : Data) (fname : Option String) :
    (matchSpec mt (none, path) fname d).isSome = fname.isNone := by
  simp only [matchSpec]
  cases fname <;> simp

/-- row 4: a literally named import matches only that exact name (this covers `.` and `_`) -/
theorem named_literal (mt : Meta) (name path : String) (d : Data) (fname : Option String)
    (hm : mt.look name = none) :
    (matchSpec mt (some name, path) fname d).isSome = (fname == some name) := by
  cases fname with
  | none => simp [matchSpec, hm]
  | some fn =>
    simp only [matchSpec, hm]
    by_cases hn : name = fn
    · simp [hn]
    · simp [hn, Ne.symm hn]

/-- rows 3/4 with an identifier metavariable as name: matches a named import (binding the name)
and an unnamed one (recording that it was unnamed), provided the metavariable is not already
bound to something else -/
theorem metavar_name_matches_any (mt : Meta) (name path : String) (d : Data) (fname : Option String)
    (hm : mt.look name = some Kind.ident) (hfree : d.lookMv name = none) :
    (matchSpec mt (some name, path) fname d).isSome = true := by
  have hmv : ∀ (s : String) (d' : Data), d'.lookMv name = none → (matchMetavar .ident name (mkIdent s) d').isSome = true :=
    fun s d' h => Option.isSome_iff_exists.2 ⟨_, matchMetavar_some.2 ⟨rfl, rfl, .inr ⟨h, rfl⟩⟩⟩
  cases fname with
  | none =>
    simp only [matchSpec, hm, bne_self_eq_false, Bool.false_eq_true, ↓reduceIte]
    exact hmv name _ hfree
  | some fn =>
    simp only [matchSpec, hm]
    exact hmv fn _ hfree

/-- the listed imports are tried in order: if the first does not match, the guard fails whatever the others are -/
theorem all_imports_required (mt : Meta) (p : Option String × String) (ps : List (Option String × String))
    (f : FileM) (d : Data) (h : matchImport mt p f d = none) : matchImports mt (p :: ps) f d = none := by
  simp [matchImports, h]

end Gopatch.C10
