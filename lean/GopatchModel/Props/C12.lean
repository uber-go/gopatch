import GopatchModel.Spec.CliSpec
namespace Gopatch.C12
open Gopatch

/-- With --diff or --print-only the run performs no write, for every patch outcome and file list. -/
theorem dry_run_no_write (o : Opts) (dt) (fs : List FileIn) (h : o.diff = true ∨ o.print = true) :
    writesOf (runFiles o dt fs) = [] := by
  rw [writesOf_runFiles, List.flatMap_eq_nil_iff]
  intro f _
  refine writesOf_eq_nil.2 fun p b hw => ?_
  obtain ⟨_, _, hd, hpr, _⟩ := write_mem_stepFile.1 hw
  simp [hd, hpr] at h

/-- For a patched file the three modes carry the same bytes: written in place, printed,
and (through the diff) reconstructible from the original. -/
theorem modes_agree (dt : String → String → String → String) (applyDiff : String → String → String)
    (hdiff : ∀ name a b, applyDiff (dt name a b) a = b)
    (f : FileIn) (c b : String) (cs : List String)
    (hc : f.content = some c) (hp : f.parses = true) (ha : f.apply = .ok b cs)
    (o : Opts) (hg : (o.skipGenerated && f.generated) = false) :
    writesOf (stepFile { o with diff := false, print := false } dt f) = [(f.abs, b)] ∧
    (stepFile { o with diff := false, print := true } dt f).filterMap
        (fun x => match x with | .stdout s => some s | _ => none) = [b] ∧
    ((stepFile { o with diff := true } dt f).filterMap
        (fun x => match x with | .stdout s => some s | _ => none)).map (fun d => applyDiff d c) = [b] := by
  refine ⟨?_, ?_, ?_⟩
  · simp [stepFile, writesOf, hc, hp, ha, hg]
  · simp [stepFile, hc, hp, ha, hg]
  · simp [stepFile, hc, hp, ha, hg, hdiff]

/-- descriptions are emitted on stderr only for files to which a change applied and whose
output was emitted; every such line is `provided:comment` -/
theorem stderr_only_for_patched (o : Opts) (dt) (f : FileIn) (s : String)
    (h : s ∈ stderrOf (stepFile o dt f)) :
    ∃ b cs, f.apply = .ok b cs ∧ (o.diff = true ∨ o.print = true) ∧ ∃ c ∈ cs, s = s!"{f.provided}:{c}" := by
  obtain ⟨⟨b, cs, hok, hs⟩, hmode, _⟩ := stderr_mem_stepFile.1 (mem_stderrOf.1 h)
  exact ⟨b, cs, hok, hmode, hs⟩

/-- `applyApi` on the outcome `.ok b cs` of a file that parses gives `b`, the bytes `stepFile` writes or prints for that
outcome (`modes_agree`); the definition unfolded -/
theorem api_agrees (src b : String) (cs : List String) : applyApi src true (.ok b cs) = .ok b := by
  simp [applyApi]

end Gopatch.C12
