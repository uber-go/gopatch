import GopatchModel.Spec.CliSpec
namespace Gopatch.C14
open Gopatch

/-- `runFiles` is `stepFile` file by file, in order: its definition as a `flatMap`, spelt out at one file of the list.
That a file's step cannot depend on the files around it is the modelling decision (the loop of `Run` hands nothing but
`errors` from one iteration to the next); this theorem only reads it off. -/
theorem file_independent (o : Opts) (dt) (a b : List FileIn) (f : FileIn) :
    runFiles o dt (a ++ f :: b) = runFiles o dt a ++ stepFile o dt f ++ runFiles o dt b := by
  simp

/-- the same at a one-file list; with `file_independent`, the share of `f` in a grouped run is its solo run -/
theorem solo_eq_share (o : Opts) (dt) (f : FileIn) : runFiles o dt [f] = stepFile o dt f := by
  simp

/-- the bytes written for a file are written in every run that contains it -/
theorem writes_independent (o : Opts) (dt) (a b : List FileIn) (f : FileIn) (p : String × String)
    (h : p ∈ writesOf (stepFile o dt f)) : p ∈ writesOf (runFiles o dt (a ++ f :: b)) := by
  rw [writesOf_runFiles, List.mem_flatMap]
  exact ⟨f, by simp, h⟩

/-- Every element of `List.replicate n x` is `x`, at `x := applyApi src p a`: core's `List.eq_of_mem_replicate`, which
holds of any value. That `applyApi`, a function, gives the same result for the same arguments needs no theorem; that
`patch.File.Apply` keeps no state between calls is tested on the library (repeated and concurrent calls), not proved. -/
theorem api_repeatable (src : String) (p : Bool) (a : Apply) (n : Nat) :
    ∀ r ∈ List.replicate n (applyApi src p a), r = applyApi src p a :=
  fun _ => List.eq_of_mem_replicate

end Gopatch.C14
