import GopatchModel.FileM
import GopatchModel.Spec.ImportsOnly
namespace Gopatch.C11
open Gopatch

/-- adding an import never removes one, and adds at most the import it was asked to add -/
theorem addImport_superset (c : Change) (d : Data) (imp : Option String × String)
    (imps imps' : List (Option String × String)) (n : Option String)
    (h : addImport c d imp imps = .ok (imps', n)) :
    (∀ x ∈ imps, x ∈ imps') ∧ (∀ x ∈ imps', x ∈ imps ∨ x.2 = imp.2) := by
  unfold addImport at h
  cases hn : importNames c d imp with
  | error e => simp [hn, Except.bind] at h
  | ok np =>
    simp only [hn, Except.bind] at h
    split at h
    · cases h
      exact ⟨fun x hx => hx, fun x hx => Or.inl hx⟩
    · cases h
      refine ⟨fun x hx => List.mem_append_left _ hx, fun x hx => (List.mem_append.1 hx).imp_right fun hx => ?_⟩
      rw [List.mem_singleton.1 hx]

theorem cleanupStep_spec (d : Data) (tree : V) (newNames : List String) (path : String)
    (imps : List (Option String × String)) :
    (∀ x ∈ cleanupStep d tree newNames path imps, x ∈ imps) ∧
    (∀ x ∈ imps, x.2 ≠ path → x ∈ cleanupStep d tree newNames path imps) := by
  fun_cases cleanupStep d tree newNames path imps with
  | case1 => exact ⟨fun x hx => (List.mem_filter.1 hx).1, fun x hx hp => List.mem_filter.2 ⟨hx, by simp [hp]⟩⟩
  | case2 => exact ⟨fun x hx => hx, fun x hx _ => hx⟩

/-- the clean-up only ever deletes imports of the paths the change matched -/
theorem cleanup_only_matched (d : Data) (tree : V) (newNames : List String) :
    ∀ (paths : List String) (imps : List (Option String × String)),
      (∀ x ∈ cleanupImports d tree newNames paths imps, x ∈ imps) ∧
      (∀ x ∈ imps, x.2 ∉ paths → x ∈ cleanupImports d tree newNames paths imps)
  | [], imps => by simp [cleanupImports]
  | p :: ps, imps => by
      have ih := cleanup_only_matched d tree newNames ps (cleanupStep d tree newNames p imps)
      have st := cleanupStep_spec d tree newNames p imps
      rw [cleanupImports]
      exact ⟨fun x hx => st.1 x (ih.1 x hx),
        fun x hx hnp => ih.2 x (st.2 x hx (List.ne_of_not_mem_cons hnp)) (List.not_mem_of_not_mem_cons hnp)⟩

/-- a matched import that was not replaced by name and whose package name is still referred to
by the rewritten file is kept -/
theorem matched_but_used_kept (d : Data) (tree : V) (newNames : List String) (path : String)
    (imps : List (Option String × String))
    (hn : (cleanupNames d path).1 ∉ newNames) (hu : usesName (cleanupNames d path).1 tree = true) :
    cleanupStep d tree newNames path imps = imps := by
  simp [cleanupStep, hn, hu]

/-- a matched import whose package name is no longer referred to is deleted -/
theorem matched_unused_deleted (d : Data) (tree : V) (newNames : List String) (path : String)
    (imps : List (Option String × String)) (hu : usesName (cleanupNames d path).1 tree = false) :
    ((cleanupNames d path).2, path) ∉ cleanupStep d tree newNames path imps := by
  simp [cleanupStep, hu, List.mem_filter]

/-- **Unrelated imports survive.** Every import whose path the change does not mention on
its '-' side is still present (same name, same path) after the clean-up. -/
theorem unmentioned_survive (d : Data) (tree : V) (newNames : List String) (paths : List String)
    (imps : List (Option String × String)) (x : Option String × String)
    (hx : x ∈ imps) (hn : x.2 ∉ paths) : x ∈ cleanupImports d tree newNames paths imps :=
  (cleanup_only_matched d tree newNames paths imps).2 x hx hn

/-- the clean-up adds nothing -/
theorem cleanup_adds_nothing (d : Data) (tree : V) (newNames : List String) (paths : List String)
    (imps : List (Option String × String)) (x : Option String × String)
    (hx : x ∈ cleanupImports d tree newNames paths imps) : x ∈ imps :=
  (cleanup_only_matched d tree newNames paths imps).1 x hx

/-- **Editing the imports touches import declarations only.** Making the import declarations of the file follow the new
import list (what astutil.AddNamedImport / DeleteNamedImport do to the tree: specs appended to the first import declaration,
a new declaration in front when there is none, declarations merged, specs and emptied declarations removed) leaves every
other declaration of the file as it is, in the same order. -/
theorem import_edits_touch_import_declarations_only (tree : V) (old new : List (Option String × String)) :
    otherDecls (syncImports tree old new) = otherDecls tree :=
  syncImports_other_decls tree old new

end Gopatch.C11
