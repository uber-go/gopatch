import GopatchModel.Engine
/-
  FileM.lean — model of internal/engine/file.go, import.go, stmt_list.go (the implicit elisions around a statement
  pattern), change.go (connectDots), of what astutil.AddNamedImport / DeleteNamedImport do to the import
  declarations of the tree (`syncImports`), and of the per-file loops that apply a sequence of changes (command line
  and library).  Numbers that stand for go/ast facts: field 4 of `ast.ForStmt` is its `Body` (`collectNth fs 4`),
  token 9 is `token.STRING` (`mkImportSpec`), 75 is `token.IMPORT` (`tokIMPORT`).
-/
namespace Gopatch

/-- one side of a change: `pgo.File` -/
structure PFile where
  pkg : String
  imports : List (Option String × String)       -- (name?, path) in source order
  kind : String                                  -- "expr" | "gendecl" | "funcdecl" | "stmts"
  node : V                                       -- for "stmts": `.slice "ast.Stmt" list`
  deriving Inhabited

structure Change where
  mt : Meta
  minus : PFile
  plus : PFile
  startKey : Nat
  endKey : Nat
  deriving Inhabited

/-- the target file -/
structure FileM where
  pkg : String
  imports : List (Option String × String)        -- `f.Imports` order
  tree : V                                       -- the `*ast.File` node
  nextId : Nat
  deriving Inhabited

/-! ### dots discovered by compilation, and their association -/
mutual
def collectDots : V → List Nat
  | .iface _ v => collectDots v
  | .slice e vs => if dotsElem e then collectSeq e vs else collectDotsL vs
  | .ptr t _ fs =>
      if ignoredPtr t then []
      else match forDotsKeyOf t fs with
        | some k => k :: collectNth fs 4
        | none => collectDotsL fs
  | _ => []
def collectDotsL : List V → List Nat
  | [] => []
  | v :: vs => collectDots v ++ collectDotsL vs
def collectSeq (e : String) : List V → List Nat
  | [] => []
  | v :: vs => match dotsKeyOf e v with
      | some k => k :: collectSeq e vs
      | none => collectDots v ++ collectSeq e vs
def collectNth : List V → Nat → List Nat
  | [], _ => []
  | v :: _, 0 => collectDots v
  | _ :: vs, i+1 => collectNth vs i
end

def mkDotsStmt (k : Nat) : V :=
  .iface "ast.Stmt" (.ptr "ast.ExprStmt" 0 [.iface "ast.Expr" (.ptr "pgo.Dots" 0 [.nilI "ast.Expr", .pos true k])])

/-- the list compiled for a top-level statement pattern -/
def stmtPattern (c : Change) (side : PFile) : V :=
  match side.node with
  | .slice e l => if l.isEmpty then .nilS e else .slice e (mkDotsStmt c.startKey :: l ++ [mkDotsStmt c.endKey])
  | v => v

def sidePattern (c : Change) (side : PFile) : V :=
  if side.kind == "stmts" then stmtPattern c side else side.node

def insertAsc (x : Nat) : List Nat → List Nat
  | [] => [x]
  | y :: ys => if x ≤ y then x :: y :: ys else y :: insertAsc x ys
def sortAsc (l : List Nat) : List Nat := l.foldr insertAsc []

def nbStep (r : Nat) (acc : Option Nat) (l : Nat) : Option Nat :=
  if l ≤ r then (match acc with | some a => if a ≤ l then some l else some a | none => some l) else acc

/-- greatest element of `lhs` that is ≤ `r` -/
def nearestBefore (lhs : List Nat) (r : Nat) : Option Nat := lhs.foldl (nbStep r) none

/-- `connectDots`: walk the '+' dots in ascending patch order; stop at the first one that
has no '-' dots at or before it, or that is already associated. -/
def connectDotsGo (lhs : List Nat) : List Nat → List (Nat × Nat) → List (Nat × Nat)
  | [], conns => conns
  | r :: rs, conns =>
      match nearestBefore lhs r with
      | none => conns
      | some l => if (conns.lookup r).isSome then conns else connectDotsGo lhs rs ((r, l) :: conns)

def connectDots (lhs rhs : List Nat) : List (Nat × Nat) := connectDotsGo lhs (sortAsc rhs) []

def Change.assoc (c : Change) : List (Nat × Nat) :=
  connectDots (collectDots (sidePattern c c.minus)) (collectDots (sidePattern c c.plus))

/-! ### imports -/

def mkIdent (name : String) : V := .ptr "ast.Ident" 0 [.pos true 0, .str name, .nilP "ast.Object"]

/-- the names under which the file imports `path`, in `f.Imports` order -/
def importCandidates (imps : List (Option String × String)) (path : String) : List (Option String) :=
  (imps.filter (fun p => p.2 == path)).map (·.1)

/-- `ImportMatcher.matchSpec`: one import of the patch against one import of the same path -/
def matchSpec (mt : Meta) (pat : Option String × String) (fname : Option String) (d : Data) : Option Data :=
  match pat.1 with
  | none => if fname.isNone then some d else none
  | some nameS =>
    match fname with
    | none =>
        if mt.look nameS != some Kind.ident then none
        else
          let d := { d with impMv := (nameS, true) :: d.impMv }
          let d := { d with imp := (pat.2, { name := nameS, mvKey := some nameS }) :: d.imp }
          matchMetavar .ident nameS (mkIdent nameS) d
    | some fn =>
        let d := { d with imp := (pat.2, { name := fn, mvKey := none }) :: d.imp }
        match mt.look nameS with
        | some k => matchMetavar k nameS (mkIdent fn) d
        | none => if nameS == fn then some d else none

/-- `ImportMatcher.Match` (after the `fix:` that tries every import of the path) -/
def matchImport (mt : Meta) (pat : Option String × String) (f : FileM) (d : Data) : Option Data :=
  firstSome (importCandidates f.imports pat.2) (fun fname => matchSpec mt pat fname d)

def matchImports (mt : Meta) : List (Option String × String) → FileM → Data → Option Data
  | [], _, d => some d
  | p :: ps, f, d => (matchImport mt p f d).bind (matchImports mt ps f)

/-- `filepath.Base` for slash-separated import paths -/
def pathBase (p : String) : String :=
  let cs := p.toList
  let cs := (cs.reverse.dropWhile (· == '/')).reverse
  if cs.isEmpty then (if p.isEmpty then "." else "/")
  else String.ofList ((cs.reverse.takeWhile (· != '/')).reverse)

/-! ### traversal (astutil.Apply pre-order) and sites -/

structure Site where
  parent : Nat
  field : Nat
  index : Option Nat
  slotTy : String
  data : Data
  deriving Inhabited

def skipNode (t : String) : Bool := t == "ast.Object" || t == "ast.Scope" || t == "ast.CommentGroup"

mutual
def sitesV (nm : V → Option Data) (pid fld : Nat) (idx : Option Nat) (slotTy : String) : V → List Site
  | .iface _ x => sitesV nm pid fld idx slotTy x
  | .ptr t id fs =>
      if skipNode t then []
      else
        (match nm (.ptr t id fs) with
         | some d => [{ parent := pid, field := fld, index := idx, slotTy := slotTy, data := d }]
         | none => []) ++ sitesFields nm id 0 fs
  | .slice _ vs => sitesElems nm pid fld 0 vs
  | _ => []
def sitesFields (nm : V → Option Data) (id k : Nat) : List V → List Site
  | [] => []
  | f :: fs => sitesV nm id k none f.tyOf f ++ sitesFields nm id (k+1) fs
def sitesElems (nm : V → Option Data) (pid fld i : Nat) : List V → List Site
  | [] => []
  | v :: vs => sitesV nm pid fld (some i) v.tyOf v ++ sitesElems nm pid fld (i+1) vs
end

def stmtFieldIdx (t : String) : Option Nat :=
  if t == "ast.BlockStmt" then some 1
  else if t == "ast.CaseClause" || t == "ast.CommClause" then some 3
  else none

/-- the node matcher of a change (`FileMatcher.NodeMatcher`) applied with incoming data `d` -/
def nodeMatch (c : Change) (d : Data) (n : V) : Option Data :=
  if c.minus.kind == "stmts" then
    match n with
    | .ptr t _ fs =>
        (match stmtFieldIdx t with
         | some si =>
             (match fs[si]? with
              | some sv => matchV c.mt (stmtPattern c c.minus) sv
                             { d with stmt := some { ty := t, stmtIdx := si, fields := fs } }
              | none => none)
         | none => none)
    | _ => none
  else matchV c.mt c.minus.node n d

/-- `FileMatcher.Match` -/
def fileMatch (c : Change) (f : FileM) : Option (Data × List Site) :=
  if c.minus.pkg != "" && c.minus.pkg != f.pkg then none
  else match matchImports c.mt c.minus.imports f Data.empty with
    | none => none
    | some d =>
        let d := { d with matched := some (c.minus.imports.map (·.2)) }
        let sites := match f.tree with
          | .ptr _ id fs => sitesFields (nodeMatch c d) id 0 fs
          | _ => []
        if sites.isEmpty then none else some (d, sites)

/-- `NodeReplacer.Replace(m.data, cl, m.region.Pos)` -/
def nodeReplace (c : Change) (assoc : List (Nat × Nat)) (d : Data) : R V :=
  if c.plus.kind == "stmts" then
    match d.stmt with
    | none => throw (.err "no statement matches found")
    | some sd => do
        let stmts ← replaceV c.mt assoc (stmtPattern c c.plus) d true
        pure (.ptr sd.ty 0 (sd.fields.set sd.stmtIdx stmts))
  else replaceV c.mt assoc c.plus.node d true

def modifyAt {α} (f : α → α) : List α → Nat → List α
  | [], _ => []
  | a :: as, 0 => f a :: as
  | a :: as, i+1 => a :: modifyAt f as i

/-- store `nv` in a slot currently holding `old` (interface slots wrap the pointer) -/
def wrapFor (old nv : V) : V :=
  match old with
  | .iface i _ => .iface i nv
  | .nilI i => .iface i nv
  | _ => nv

def setField (fs : List V) (fld : Nat) (idx : Option Nat) (nv : V) : List V :=
  modifyAt (fun slot =>
    match idx with
    | none => wrapFor slot nv
    | some i => match slot with
        | .slice e vs => .slice e (modifyAt (fun o => wrapFor o nv) vs i)
        | s => s) fs fld

mutual
/-- `parent.field[index] = nv` for every occurrence of the node with identity `pid` -/
def setV (pid fld : Nat) (idx : Option Nat) (nv : V) : V → V
  | .iface i v => .iface i (setV pid fld idx nv v)
  | .slice e vs => .slice e (setVs pid fld idx nv vs)
  | .ptr t id fs =>
      let fs' := setVs pid fld idx nv fs
      if id == pid then .ptr t id (setField fs' fld idx nv) else .ptr t id fs'
  | v => v
def setVs (pid fld : Nat) (idx : Option Nat) (nv : V) : List V → List V
  | [] => []
  | v :: vs => setV pid fld idx nv v :: setVs pid fld idx nv vs
end

mutual
/-- does the tree contain a node with identity `pid`? -/
def hasId (pid : Nat) : V → Bool
  | .iface _ v => hasId pid v
  | .slice _ vs => hasIdL pid vs
  | .ptr _ id fs => id == pid || hasIdL pid fs
  | _ => false
def hasIdL (pid : Nat) : List V → Bool
  | [] => false
  | v :: vs => hasId pid v || hasIdL pid vs
end

/- `usesNameAsTopLevel` -/
mutual
def usesName (name : String) : V → Bool
  | .iface _ v => usesName name v
  | .slice _ vs => usesNameL name vs
  | .ptr t _ fs =>
      if skipNode t then false
      else if t == "ast.SelectorExpr" then
        (match fs with
         | [.iface _ (.ptr tx _ [_, .str n, obj]), _] =>
             if tx == "ast.Ident" then n == name && obj.isNil else usesNameL name fs
         | _ => usesNameL name fs)
      else usesNameL name fs
  | _ => false
def usesNameL (name : String) : List V → Bool
  | [] => false
  | v :: vs => usesName name v || usesNameL name vs
end

/- give fresh identities to the nodes built by a replacement -/
mutual
def renumV : V → Nat → V × Nat
  | .iface i v, n => let (v', n') := renumV v n; (.iface i v', n')
  | .slice e vs, n => let (vs', n') := renumVs vs n; (.slice e vs', n')
  | .ptr t id fs, n =>
      if id == 0 then let (fs', n') := renumVs fs (n+1); (.ptr t n fs', n')
      else let (fs', n') := renumVs fs n; (.ptr t id fs', n')
  | v, n => (v, n)
def renumVs : List V → Nat → List V × Nat
  | [], n => ([], n)
  | v :: vs, n => let (v', n1) := renumV v n; let (vs', n2) := renumVs vs n1; (v' :: vs', n2)
end

def applySites (c : Change) (assoc : List (Nat × Nat)) : List Site → V → R V
  | [], tree => pure tree
  | s :: ss, tree => do
      let give ← nodeReplace c assoc s.data
      let tree' := if assignable give s.slotTy then setV s.parent s.field s.index give tree else tree
      applySites c assoc ss tree'

/-- the (name, pkgName) pair `ImportReplacer.Replace` computes -/
def importNames (c : Change) (d : Data) (imp : Option String × String) : R (Option String × String) :=
  match imp.1 with
  | none => .ok (none, pathBase imp.2)
  | some nameS =>
      let isMv := c.mt.look nameS == some Kind.ident
      let unnamed := isMv && (d.impMv.lookup nameS == some true)
      if unnamed then .ok (none, nameS)
      else if (c.mt.look nameS).isSome then
        (match d.lookMv nameS with
         | some (.ptr t _ fs) =>
             if t == "ast.Ident" then .ok (some (identName fs), identName fs)
             else .error (.err "import name is not an identifier")
         | some _ => .error (.err "import name is not an identifier")
         | none => .error (.err s!"could not find value for metavariable {nameS}"))
      else .ok (some nameS, nameS)

def normName : Option String → Option String
  | some "" => none
  | n => n

/-- `ImportReplacer.Replace`: returns the new import list and the package name added, if any -/
def addImport (c : Change) (d : Data) (imp : Option String × String)
    (imps : List (Option String × String)) : R (List (Option String × String) × Option String) :=
  (importNames c d imp).bind (fun np =>
    if imps.contains (normName np.1, imp.2) then .ok (imps, none)
    else .ok (imps ++ [(normName np.1, imp.2)], if np.2.isEmpty then none else some np.2))

def addImports (c : Change) (d : Data) : List (Option String × String) →
    List (Option String × String) → List String → R (List (Option String × String) × List String)
  | [], imps, names => pure (imps, names)
  | i :: is, imps, names => do
      let (imps', n) ← addImport c d i imps
      addImports c d is imps' (match n with | some x => names ++ [x] | none => names)

/-- names under which `Cleanup` looks at one matched import: (pkgName, importName) -/
def cleanupNames (d : Data) (path : String) : String × Option String :=
  let (pkgName, importName) : String × String :=
    match d.imp.lookup path with
    | some idata =>
        let unnamed := match idata.mvKey with
          | some k => d.impMv.lookup k == some true
          | none => false
        (idata.name, if unnamed then "" else idata.name)
    | none => ("", "")
  (if pkgName.isEmpty then pathBase path else pkgName, if importName.isEmpty then none else some importName)

/-- one iteration of the loop of `Cleanup`: delete the matched import if it was replaced by
name or its package name is no longer referred to -/
def cleanupStep (d : Data) (tree : V) (newNames : List String) (path : String)
    (imps : List (Option String × String)) : List (Option String × String) :=
  let nm := cleanupNames d path
  if newNames.contains nm.1 || !usesName nm.1 tree
  then imps.filter (fun p => !(p.1 == nm.2 && p.2 == path)) else imps

/-- `ImportsReplacer.Cleanup` -/
def cleanupImports (d : Data) (tree : V) (newNames : List String) :
    List String → List (Option String × String) → List (Option String × String)
  | [], imps => imps
  | path :: ps, imps => cleanupImports d tree newNames ps (cleanupStep d tree newNames path imps)

/-- `file.Name.Name = r.Package` -/
def renamePkg (tree : V) (pkg : String) : V :=
  match tree with
  | .ptr t id (doc :: pk :: .ptr ti iid [p, _, o] :: rest) => .ptr t id (doc :: pk :: .ptr ti iid [p, .str pkg, o] :: rest)
  | v => v

/-! ### the import declarations inside the tree

`astutil.AddNamedImport` puts a new `ImportSpec` into the first import declaration and merges every other
import declaration into it; `DeleteNamedImport` removes the spec (and a declaration that becomes empty).  Later
changes of the same run see those nodes (a bare expression metavariable matches the path literal of an import),
so the tree has to follow the list `f.imports`.  Placement inside the declaration does not matter to any
observation (sites are replaced independently; import declarations are compared as a multiset). -/

def isImportGenDecl : V → Bool
  | .iface _ (.ptr t _ (_ :: _ :: .int tok :: _)) => t == "ast.GenDecl" && tok == tokIMPORT
  | _ => false

/-- (name?, path) of an `ImportSpec` element of `GenDecl.Specs` -/
def specKey : V → Option (Option String × String)
  | .iface _ (.ptr t _ [_, nm, .ptr _ _ [_, _, .str lit], _, _]) =>
      if t == "ast.ImportSpec" then
        let name := match nm with
          | .ptr _ _ [_, .str n, _] => some n
          | _ => none
        let cs := lit.toList
        some (name, String.ofList ((cs.drop 1).take (cs.length - 2)))
      else none
  | _ => none

def specsOf : V → List V
  | .iface _ (.ptr _ _ (_ :: _ :: _ :: _ :: .slice _ specs :: _)) => specs
  | _ => []

def mkImportSpec (imp : Option String × String) : V :=
  .iface "ast.Spec" (.ptr "ast.ImportSpec" 0 [.nilP "ast.CommentGroup",
    (match imp.1 with
     | some n => .ptr "ast.Ident" 0 [.pos true 0, .str n, .nilP "ast.Object"]
     | none => .nilP "ast.Ident"),
    .ptr "ast.BasicLit" 0 [.pos true 0, .int 9, .str ("\"" ++ imp.2 ++ "\"")],
    .nilP "ast.CommentGroup", .pos true 0])

/-- remove the first element whose key is `k` -/
def eraseSpec (k : Option String × String) : List V → List V
  | [] => []
  | s :: ss => if specKey s == some k then ss else s :: eraseSpec k ss

def withSpecs (decl : V) (specs : List V) : V :=
  match decl with
  | .iface i (.ptr t id (doc :: tp :: tok :: lp :: .slice e _ :: rest)) =>
      .iface i (.ptr t id (doc :: tp :: tok :: (if specs.length > 1 then .pos true 0 else lp) :: .slice e specs :: rest))
  | v => v

def newImportDecl (specs : List V) : V :=
  .iface "ast.Decl" (.ptr "ast.GenDecl" 0 [.nilP "ast.CommentGroup", .pos true 0, .int tokIMPORT,
    .pos (decide (specs.length > 1)) 0, .slice "ast.Spec" specs, .pos false 0])

/-- delete the specs of the imports in `gone` (one each) from the declarations; drop declarations left empty -/
def deleteSpecs (gone : List (Option String × String)) (decls : List V) : List V :=
  let step := fun (ds : List V) (k : Option String × String) =>
    -- the first import declaration that has such a spec loses it
    let rec go : List V → Bool → List V
      | [], _ => []
      | d :: rest, done =>
          if !done && isImportGenDecl d && (specsOf d).any (fun s => specKey s == some k) then
            withSpecs d (eraseSpec k (specsOf d)) :: go rest true
          else d :: go rest done
    go ds false
  (gone.foldl step decls).filter (fun d => !(isImportGenDecl d && (specsOf d).isEmpty))

/-- add specs for the imports in `added`: every import declaration is merged into the first one (a new one at the
front if there is none), the new specs are appended to it -/
def addSpecs (added : List (Option String × String)) (decls : List V) : List V :=
  if added.isEmpty then decls else
  let allSpecs := (decls.filter isImportGenDecl).flatMap specsOf ++ added.map mkImportSpec
  match decls.find? isImportGenDecl with
  | none => newImportDecl allSpecs :: decls
  | some first =>
      let merged := withSpecs first allSpecs
      let rec go : List V → Bool → List V
        | [], _ => []
        | d :: rest, seen =>
            if isImportGenDecl d then (if seen then go rest true else merged :: go rest true)
            else d :: go rest seen
      go decls false

def diffImports (a b : List (Option String × String)) : List (Option String × String) :=
  a.filter (fun x => !b.contains x)

/-- make the import declarations of the tree follow the change of the import list from `old` to `new` -/
def syncImports (tree : V) (old new : List (Option String × String)) : V :=
  match tree with
  | .ptr t id (doc :: pk :: nm :: .slice e decls :: rest) =>
      let decls1 := addSpecs (diffImports new old) decls
      let decls2 := deleteSpecs (diffImports old new) decls1
      .ptr t id (doc :: pk :: nm :: .slice e decls2 :: rest)
  | v => v

inductive Outcome where
  | noMatch
  | ok (f : FileM) (nsites : Nat)
  | fail (e : Err)
  deriving Inhabited

/-- one change on one file: `Change.Match` then `Change.Replace` -/
def applyChange (c : Change) (f : FileM) : Outcome :=
  match fileMatch c f with
  | none => .noMatch
  | some (d, sites) =>
      let assoc := c.assoc
      let pkg := if c.plus.pkg != "" then c.plus.pkg else f.pkg
      let tree0 := if c.plus.pkg != "" then renamePkg f.tree pkg else f.tree
      match applySites c assoc sites tree0 with
      | .error e => .fail e
      | .ok tree =>
          match addImports c d c.plus.imports f.imports [] with
          | .error e => .fail e
          | .ok (imps, names) =>
              let imps' := cleanupImports d tree names (d.matched.getD []) imps
              let (tree', n') := renumV (syncImports tree f.imports imps') f.nextId
              .ok { pkg := pkg, imports := imps', tree := tree', nextId := n' } sites.length

/-- `patchRunner.Apply` (CLI): all changes in order on the same tree; the first failing
Replace aborts with the file reported unmatched. Returns (result, matched?, error?). -/
def applyChangesCli : List Change → FileM → Bool → FileM × Bool × Option Err
  | [], f, m => (f, m, none)
  | c :: cs, f, m =>
      match applyChange c f with
      | .noMatch => applyChangesCli cs f m
      | .ok f' _ => applyChangesCli cs f' true
      | .fail e => (f, false, some e)

/-- `patch.File.Apply` (library): the same loop, except that a refused change does not end it - its error is recorded
(`errors.Join`) and the next change is tried on the tree as the refused one left it. What that tree is the model does not
say (`Replace` edits in place and undoes nothing): `dmg` stands for it, and what is proved about the loop holds for every
`dmg`. In the end any recorded error makes `Apply` return the errors and no bytes. -/
def applyChangesApi (dmg : Change → FileM → FileM) : List Change → FileM → Bool → List Err → FileM × Bool × List Err
  | [], f, m, es => (f, m, es)
  | c :: cs, f, m, es =>
      match applyChange c f with
      | .noMatch => applyChangesApi dmg cs f m es
      | .ok f' _ => applyChangesApi dmg cs f' true es
      | .fail e => applyChangesApi dmg cs (dmg c f) m (es ++ [e])

end Gopatch
