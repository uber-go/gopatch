/-
  Walk.lean — model of main.go:findGoFiles / findFiles over an abstract file
  system.  filepath.Walk (Lstat semantics; a directory's entries are taken in
  the order the `FsNode` lists them, Walk's lexical order is not modelled and
  does not matter to `processed`, which sorts), filepath.Join/Clean are modelled
  directly; their real behaviour is validated differentially.
-/
namespace Gopatch

inductive FsNode where
  | file
  | symlink
  | other
  | dir (entries : List (String × FsNode))
  deriving Inhabited

def startsWithChar (s : String) (c : Char) : Bool :=
  match s.toList with
  | [] => false
  | x :: _ => x == c

/-- the prune test of findGoFiles, applied to every directory including the named one -/
def skipDir (name : String) : Bool :=
  name.toList.isEmpty || startsWithChar name '.' || startsWithChar name '_' ||
    name == "testdata" || name == "vendor"

def hasGoSuffix (path : String) : Bool := ".go".toList.isSuffixOf path.toList

mutual
/-- files collected below (and including) `node`, which is at `path` and has base name `name` -/
def walk (path name : String) : FsNode → List String
  | .file => if hasGoSuffix path then [path] else []
  | .symlink => []
  | .other => []
  | .dir es => if skipDir name then [] else walkEntries path es
def walkEntries (path : String) : List (String × FsNode) → List String
  | [] => []
  | e :: es => walk (path ++ "/" ++ e.1) e.1 e.2 ++ walkEntries path es
end

/-- lexical path cleaning of an absolute path given as components -/
def cleanComps : List String → List String → List String
  | acc, [] => acc.reverse
  | acc, c :: cs =>
      if c == "" || c == "." then cleanComps acc cs
      else if c == ".." then cleanComps (acc.drop 1) cs
      else cleanComps (c :: acc) cs

def joinAbs (comps : List String) : String := "/" ++ "/".intercalate comps

def trimDots (s : String) : String :=
  if "...".toList.isSuffixOf s.toList then String.ofList (s.toList.take (s.toList.length - 3)) else s

/-- the absolute, cleaned path a pattern names -/
def resolveArg (cwd : List String) (arg : String) : List String :=
  let a := trimDots arg
  if startsWithChar a '/' then cleanComps [] (a.splitOn "/")
  else cleanComps [] (cwd ++ a.splitOn "/")

def lookupFs : FsNode → List String → Option FsNode
  | n, [] => some n
  | .dir es, c :: cs => match es.find? (fun e => e.1 == c) with
      | some e => lookupFs e.2 cs
      | none => none
  | _, _ :: _ => none

/-- `findGoFiles`: none = the path does not exist (Walk reports the Lstat error) -/
def findGoFiles (root : FsNode) (cwd : List String) (arg : String) : Option (List String) :=
  let comps := resolveArg cwd arg
  match lookupFs root comps with
  | none => none
  | some n => some (walk (joinAbs comps) (comps.getLast?.getD "/") n)

/-- insertion into a strictly ascending list, dropping duplicates -/
def insertUniq {α} (le : α → α → Bool) (x : α) : List α → List α
  | [] => [x]
  | y :: ys =>
      if le x y then (if le y x then y :: ys else x :: y :: ys)
      else y :: insertUniq le x ys

def sortUniq {α} (le : α → α → Bool) (l : List α) : List α := l.foldr (insertUniq le) []

def strLe (a b : String) : Bool := decide (a ≤ b)

/-- `findFiles`: none when some pattern cannot be enumerated (the run stops before processing) -/
def findFiles (root : FsNode) (cwd : List String) : List String → Option (List String)
  | [] => some []
  | a :: as => match findGoFiles root cwd a, findFiles root cwd as with
      | some xs, some ys => some (xs ++ ys)
      | _, _ => none

def processed (root : FsNode) (cwd : List String) (args : List String) : Option (List String) :=
  (findFiles root cwd args).map (sortUniq strLe)

end Gopatch
