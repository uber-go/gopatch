/-
  Loader.lean — model of `loadPatches` (main.go) and `patchLoader` (loader.go): which patch
  sources a run reads, in which order, and where it stops.  The file system and the patch
  front end are parameters: `listContent` is what the `-P` file holds (none: it cannot be
  opened), `good` says whether a source opens, parses and compiles.
-/
namespace Gopatch.Load

abbrev Bytes := List UInt8

/-- `bufio.ScanLines` drops one trailing carriage return of a line -/
def dropCR (l : Bytes) : Bytes :=
  match l.getLast? with
  | some 13 => l.dropLast
  | _ => l

/-- the tokens of `bufio.Scanner` with `ScanLines` (lines longer than the scanner's buffer aside): the text between
newlines, a last unterminated line if it is not empty -/
def scanFrom : Bytes → Bytes → List Bytes
  | acc, [] => if acc.isEmpty then [] else [dropCR acc.reverse]
  | acc, b :: bs => if b == 10 then dropCR acc.reverse :: scanFrom [] bs else scanFrom (b :: acc) bs

def scanLines (content : Bytes) : List Bytes := scanFrom [] content

inductive Src where
  | stdin
  | file (path : Bytes)
  deriving DecidableEq, Repr, Inhabited

/-- the sources `loadPatches` goes through: standard input when neither `-p` nor `-P` is given, then the `-p` files in
the order of the command line, then the non-empty lines of the `-P` file in their order (paths as written: blanks are
part of them, nothing is a comment) -/
def plan (patches : List Bytes) (listPath : Bytes) (listContent : Option Bytes) : List Src × Bool :=
  let head := if patches.isEmpty && listPath.isEmpty then [Src.stdin] else []
  let flags := patches.map Src.file
  if listPath.isEmpty then (head ++ flags, true)
  else match listContent with
    | none => (head ++ flags, false)            -- the list itself cannot be opened: an error after the `-p` files
    | some c => (head ++ flags ++ ((scanLines c).filter (fun l => !l.isEmpty)).map Src.file, true)

/-- loading stops at the first source that does not load: what was loaded before it, and the source that failed -/
def loadAll (good : Src → Bool) : List Src → List Src × Option Src
  | [] => ([], none)
  | s :: ss =>
      if good s then
        let (l, e) := loadAll good ss
        (s :: l, e)
      else ([], some s)

/-- what `loadPatches` answers: the programs in order, or the error (the failing source, or the list file itself) -/
inductive Outcome where
  | loaded (srcs : List Src)
  | failed (at_ : Option Src)       -- none: the `-P` file cannot be opened
  deriving DecidableEq, Repr, Inhabited

def loadPatches (good : Src → Bool) (patches : List Bytes) (listPath : Bytes) (listContent : Option Bytes) : Outcome :=
  let (srcs, listOk) := plan patches listPath listContent
  match loadAll good srcs with
  | (_, some s) => .failed (some s)
  | (l, none) => if listOk then .loaded l else .failed none

end Gopatch.Load
