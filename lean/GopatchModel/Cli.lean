/-
  Cli.lean — model of main.go:(*mainCmd).Run's per-file loop and of
  patch.File.Apply.  `stepFile` and `applyApi` take what the engine, go/format,
  imports.Process and pkg/diff do for a file as given (the per-file `Apply`
  outcome); `finishFile` and `mkApply` at the end say how the formatting tail
  assembles that outcome.
-/
namespace Gopatch

structure Opts where
  diff : Bool := false
  print : Bool := false
  skipImports : Bool := false
  skipGenerated : Bool := false
  verbose : Bool := false
  deriving Repr, Inhabited, DecidableEq

/-- what `patchRunner.Apply` + `format.Node` + `imports.Process` (or the re-parse)
yield for one parsed file -/
inductive Apply where
  | noMatch
  | replaceErr (msg : String)
  | formatErr (msg : String)
  | ok (bytes : String) (comments : List String)
  deriving Repr, Inhabited, DecidableEq

structure FileIn where
  abs : String
  provided : String
  content : Option String       -- none: cannot be read
  parses : Bool
  generated : Bool              -- checkGeneratedCode
  apply : Apply
  deriving Repr, Inhabited

inductive Out where
  | write (path bytes : String)          -- writeFileAtomic(path, bytes): temporary sibling, then rename
  | stdout (s : String)
  | stderr (s : String)
  | log (s : String)                     -- goes to stdout iff --verbose
  | error (s : String)                   -- appended to `errors`
  | lateError (s : String)               -- patchRunner.errors, appended after all files
  deriving Repr, Inhabited, DecidableEq

/-- effects of one iteration of the loop over files -/
def stepFile (o : Opts) (diffText : String → String → String → String) (f : FileIn) : List Out :=
  match f.content with
  | none => [.log s!"{f.abs}: failed", .error s!"could not read {f.abs}"]
  | some content =>
    if !f.parses then [.error s!"could not parse {f.abs}"]
    else if o.skipGenerated && f.generated then [.log s!"generated file {f.abs}: skipped"]
    else match f.apply with
      | .noMatch => (if o.print then [.stdout content] else []) ++ [.log s!"{f.abs}: skipped"]
      | .replaceErr m =>
          [.lateError s!"could not update {f.abs}: {m}"] ++
          (if o.print then [.stdout content] else []) ++ [.log s!"{f.abs}: skipped"]
      | .formatErr m => [.log s!"{f.abs}: failed", .error s!"{f.abs}: {m}"]
      | .ok bytes comments =>
          (if o.diff then
             comments.map (fun c => Out.stderr s!"{f.provided}:{c}") ++ [.stdout (diffText f.provided content bytes)]
           else if o.print then
             comments.map (fun c => Out.stderr s!"{f.provided}:{c}") ++ [.stdout bytes]
           else [.write f.abs bytes]) ++ [.log s!"{f.abs}: patched"]

def runFiles (o : Opts) (diffText : String → String → String → String) (fs : List FileIn) : List Out :=
  fs.flatMap (stepFile o diffText)

def errorsOf (outs : List Out) : List String :=
  outs.filterMap (fun x => match x with | .error s => some s | _ => none) ++
  outs.filterMap (fun x => match x with | .lateError s => some s | _ => none)

def writesOf (outs : List Out) : List (String × String) :=
  outs.filterMap (fun x => match x with | .write p b => some (p, b) | _ => none)

def stdoutOf (o : Opts) (outs : List Out) : List String :=
  outs.filterMap (fun x => match x with
    | .stdout s => some s
    | .log s => if o.verbose then some (s ++ "\n") else none
    | _ => none)

def stderrOf (outs : List Out) : List String :=
  outs.filterMap (fun x => match x with | .stderr s => some s | _ => none)

def exitOf (outs : List Out) : Nat := if (errorsOf outs).isEmpty then 0 else 1

/-- `patch.File.Apply`: bytes or an error -/
def applyApi (src : String) (parses : Bool) (a : Apply) : Except String String :=
  if !parses then .error "could not parse"
  else match a with
    | .noMatch => .ok src
    | .replaceErr m => .error m
    | .formatErr m => .error m
    | .ok bytes _ => .ok bytes

/-- the tail of the per-file pipeline after a successful Replace: `format.Node`, then
`imports.Process` unless `--skip-import-processing`, in which case the result is re-parsed -/
def finishFile (o : Opts) (formatted : Except String String)
    (process : String → Except String String) (parsesB : String → Bool) : Except String String :=
  match formatted with
  | .error e => .error e
  | .ok bs =>
      if !o.skipImports then process bs
      else if parsesB bs then .ok bs else .error "rewritten file is not valid Go"

/-- per-file outcome assembled from the engine result and the formatting tail -/
def mkApply (o : Opts) (matched : Bool) (replaceErr : Option String) (formatted : Except String String)
    (process : String → Except String String) (parsesB : String → Bool) (comments : List String) : Apply :=
  match replaceErr with
  | some m => .replaceErr m
  | none =>
      if !matched then .noMatch
      else match finishFile o formatted process parsesB with
        | .ok bs => .ok bs comments
        | .error e => .formatErr e

end Gopatch
